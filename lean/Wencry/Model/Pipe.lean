/-
Model of the multithreaded buffer pipeline (kernel/multi_aes/multi_buffergroup.{h,cpp}, multicry.cpp) as a labelled
transition system, after repairs F2 (workers wait for their first load) and F3.

One step per critical section of `bufferctrl` (the per-buffer mutex makes those atomic; Model/PipeFine.lean goes below this
granularity and Proofs/PipeFine.lean shows that it refines this system) and one step per unsynchronised access (`get_entry`,
`cmpstate`, `runcry` on a block, `export_buffer`, `load_buffer`, `turn_iter`).
Condition variables are explicit: a thread whose wait predicate is false goes to a `sleep…` pc from which only the matching
`notify_all` moves it. Thread ids: `none` = the I/O (buffer maintenance) thread, `some i` = worker i.

The control part (everything the protocol decisions depend on) is kept apart from the data part (`dat`, `fin`, `ws`, `out`,
ghost `cid`, `log`, `nexp`, `viol`), which control never reads.
The input is abstract: `inp p` is the result of the p-th `load_buffer` call; the per-stream transformer is any
`f : σ → Block → σ × Block`.
-/
import Wencry.Basic
import Wencry.Model.IoBuffer
namespace Wencry.Model.Pipe
open Wencry.Model.IoBuffer

/-- `bufstate_t` -/
inductive BSt | empty | updating | ready | inv
  deriving DecidableEq, Repr, Inhabited

/-- worker program points (multiruncrypt_file / require_buffer_entry):
initWait: `wait_buffer_loaded` (lock, test READY/INV) · initSleep: asleep on cv_ready there ·
fetch: first `get_entry` of `require_buffer_entry` · process: `mode.runcry(block)` · setUpd: `set_update` ·
waitRdy: `wait_ready` (lock, test) · sleepRdy: asleep on cv_ready · afterWait: `cmpstate(READY)` ·
fetch2: second `get_entry` · done: returned -/
inductive WPc | initWait | initSleep | fetch | process | setUpd | waitRdy | sleepRdy | afterWait | fetch2 | done
  deriving DecidableEq, Repr, Inhabited

/-- I/O thread program points (run_buffer / buffer_update / turn_iter):
waitUpd: `wait_update` (lock, test UPDATING/EMPTY) · sleepUpd: asleep on cv_update · chk: `cmpstate(UPDATING)` ·
exporting: `export_buffer` · loadDecide: `if (!over)` · loading: `load_buffer` · setRdy: `over = …; set_ready(…)` ·
iter: `turn_iter` · done: returned -/
inductive IoPc | waitUpd | sleepUpd | chk | exporting | loadDecide | loading | setRdy | iter | done
  deriving DecidableEq, Repr, Inhabited

/-- control word and cursor of one buffer -/
structure Buf where
  st : BSt
  total : Nat
  now : Nat
  deriving Repr, Inhabited

structure St (σ : Type) where
  -- control
  buf : Nat → Buf
  wpc : Nat → WPc
  iopc : IoPc
  turn : Nat
  over : Bool
  lst : LSt
  pos : Nat
  live : Nat
  -- data
  dat : Nat → List Block
  fin : Nat → Bool
  ws : Nat → σ
  out : Bytes
  -- ghost
  cid : Nat → Nat
  nexp : Nat
  log : List (Nat × Nat × Nat)
  viol : Bool

def upd {α} (f : Nat → α) (i : Nat) (a : α) : Nat → α := fun j => if j = i then a else f j
@[simp] theorem upd_same {α} (f : Nat → α) (i : Nat) (a : α) : upd f i a i = a := by simp [upd]
@[simp] theorem upd_other {α} (f : Nat → α) (i j : Nat) (a : α) (h : j ≠ i) : upd f i a j = f j := by simp [upd, h]

/-- input: result of the p-th `load_buffer` call (blocks placed in the buffer, load state) -/
abbrev Input := Nat → List Block × LSt

def Input.WF (inp : Input) : Prop :=
  ∀ p, ((inp p).2 ≠ .nodata → 1 ≤ (inp p).1.length) ∧ ((inp p).2 = .nodata → (inp p).1.length = 0)

/-- the I/O thread is inside its region for buffer i -/
def ioIn {σ} (s : St σ) (i : Nat) : Prop :=
  s.turn = i ∧ (s.iopc = .chk ∨ s.iopc = .exporting ∨ s.iopc = .loadDecide ∨ s.iopc = .loading ∨ s.iopc = .setRdy)

instance {σ} (s : St σ) (i : Nat) : Decidable (ioIn s i) := by unfold ioIn; infer_instance

/-- worker i is at a point that touches the contents of its buffer -/
def wTouches {σ} (s : St σ) (i : Nat) : Prop := s.wpc i = .process

instance {σ} (s : St σ) (i : Nat) : Decidable (wTouches s i) := by unfold wTouches; infer_instance

variable {σ : Type}

def stepW (f : σ → Block → σ × Block) (s : St σ) (i : Nat) : Option (St σ) :=
  let b := s.buf i
  match s.wpc i with
  | .initWait => some { s with wpc := upd s.wpc i (if b.st = .ready ∨ b.st = .inv then .fetch else .initSleep) }
  | .initSleep => none
  | .fetch =>
      if b.now < b.total then some { s with buf := upd s.buf i { b with now := b.now + 1 }, wpc := upd s.wpc i .process }
      else some { s with wpc := upd s.wpc i .setUpd }
  | .process =>
      let k := b.now - 1
      let r := f (s.ws i) ((s.dat i).getD k Block.zero)
      some { s with wpc := upd s.wpc i .fetch, ws := upd s.ws i r.1, dat := upd s.dat i ((s.dat i).set k r.2),
                    log := s.log ++ [(i, s.cid i, k)],
                    viol := s.viol || decide (b.st ≠ .ready) || decide (ioIn s i) }
  | .setUpd =>
      if b.st = .ready then
        some { s with buf := upd s.buf i { b with st := .updating }, wpc := upd s.wpc i .waitRdy,
                      iopc := if s.iopc = .sleepUpd ∧ s.turn = i then .waitUpd else s.iopc }
      else some { s with wpc := upd s.wpc i .waitRdy }
  | .waitRdy => some { s with wpc := upd s.wpc i (if b.st = .ready ∨ b.st = .inv then .afterWait else .sleepRdy) }
  | .sleepRdy => none
  | .afterWait => some { s with wpc := upd s.wpc i (if b.st = .ready then .fetch2 else .done) }
  | .fetch2 =>
      if b.now < b.total then some { s with buf := upd s.buf i { b with now := b.now + 1 }, wpc := upd s.wpc i .process }
      else some { s with wpc := upd s.wpc i .done }
  | .done => none

/-- `turn_iter`'s do-while: first index after `t` (cyclically, at most `fuel` tries) whose buffer is not INV -/
def nextTurn (T : Nat) (buf : Nat → Buf) (t : Nat) : Nat → Nat
  | 0 => t
  | fuel+1 => let t' := (t + 1) % T; if (buf t').st ≠ .inv then t' else nextTurn T buf t' fuel

/-- effect of `cv_ready.notify_all()` on a worker -/
def wake (p : WPc) : WPc := match p with | .sleepRdy => .waitRdy | .initSleep => .initWait | p => p

/-- the `iobuffer` of buffer i as `export_buffer` sees it -/
def ioBufOf (s : St σ) (i : Nat) : IoBuf :=
  { blocks := s.dat i, total := (s.buf i).total, now := (s.buf i).now, tail := 0, isfinal := s.fin i }

def stepIo (inp : Input) (ispad : Bool) (T : Nat) (s : St σ) : Option (St σ) :=
  let i := s.turn
  let b := s.buf i
  match s.iopc with
  | .waitUpd => some { s with iopc := if b.st = .updating ∨ b.st = .empty then .chk else .sleepUpd }
  | .sleepUpd => none
  | .chk => some { s with iopc := if b.st = .updating then .exporting else .loadDecide }
  | .exporting => some { s with iopc := .loadDecide, out := s.out ++ exportBytes (ioBufOf s i) ispad, nexp := s.nexp + 1,
                                viol := s.viol || decide (wTouches s i) }
  | .loadDecide => if s.over then some { s with lst := .nodata, iopc := .setRdy } else some { s with iopc := .loading }
  | .loading => some { s with buf := upd s.buf i { b with total := (inp s.pos).1.length, now := 0 }, lst := (inp s.pos).2,
                              dat := upd s.dat i (inp s.pos).1, fin := upd s.fin i (s.fin i || decide ((inp s.pos).2 = .final)),
                              cid := upd s.cid i s.pos,
                              pos := s.pos + 1, iopc := .setRdy, viol := s.viol || decide (wTouches s i) }
  | .setRdy =>
      if s.lst ≠ .nodata then
        some { s with over := decide (s.lst ≠ .full), buf := upd s.buf i { b with st := .ready },
                      wpc := upd s.wpc i (wake (s.wpc i)), iopc := .iter }
      else
        some { s with over := true, buf := upd s.buf i { b with st := .inv }, live := s.live - 1,
                      wpc := upd s.wpc i (wake (s.wpc i)), iopc := .iter }
  | .iter => if s.live = 0 then some { s with iopc := .done }
             else some { s with turn := nextTurn T s.buf s.turn T, iopc := .waitUpd }
  | .done => none

def init (T : Nat) (ws0 : Nat → σ) : St σ :=
  { buf := fun _ => ⟨.empty, 0, 0⟩, wpc := fun _ => .initWait, iopc := .waitUpd, turn := 0,
    over := false, lst := .nodata, pos := 0, live := T,
    dat := fun _ => [], fin := fun _ => false, ws := ws0, out := [], cid := fun _ => 0, nexp := 0, log := [], viol := false }

/-- thread ids: `none` = I/O thread, `some i` = worker i -/
def step (f : σ → Block → σ × Block) (inp : Input) (ispad : Bool) (T : Nat) (s : St σ) : Option Nat → Option (St σ)
  | none => stepIo inp ispad T s
  | some i => if i < T then stepW f s i else none

/-- run a schedule (list of thread ids); a step that is not enabled is skipped -/
def runSched (f : σ → Block → σ × Block) (inp : Input) (ispad : Bool) (T : Nat) (s : St σ) : List (Option Nat) → St σ
  | [] => s
  | t :: ts => runSched f inp ispad T ((step f inp ispad T s t).getD s) ts

def allDone (T : Nat) (s : St σ) : Prop := s.iopc = .done ∧ ∀ i, i < T → s.wpc i = .done

/-! ### Reference: what the sequential pipeline produces for the same input -/

/-- feed a list of blocks through a transformer -/
def runF (f : σ → Block → σ × Block) (s : σ) : List Block → σ × List Block
  | [] => (s, [])
  | b :: bs => let r := f s b; let r2 := runF f r.1 bs; (r2.1, r.2 :: r2.2)

/-- number of data-carrying loads: index of the first load that is not FULL, plus one if that load is FINAL -/
def nChunks (inp : Input) (P : Nat) : Nat := if (inp P).2 = .final then P + 1 else P

/-- stream state of worker (c mod T) just before chunk c: after chunks c mod T, c mod T + T, …, c - T -/
def refBefore (f : σ → Block → σ × Block) (inp : Input) (T : Nat) (ws0 : Nat → σ) (c : Nat) : σ :=
  if h : c < T ∨ T = 0 then ws0 c else
    (runF f (refBefore f inp T ws0 (c - T)) (inp (c - T)).1).1
termination_by c
decreasing_by omega

/-- transformed blocks of chunk c -/
def refOut (f : σ → Block → σ × Block) (inp : Input) (T : Nat) (ws0 : Nat → σ) (c : Nat) : List Block :=
  (runF f (refBefore f inp T ws0 c) (inp c).1).2

/-- bytes exported for chunk c by the sequential pipeline -/
def refExport (f : σ → Block → σ × Block) (inp : Input) (ispad : Bool) (T : Nat) (ws0 : Nat → σ) (c : Nat) : Bytes :=
  exportBytes { blocks := refOut f inp T ws0 c, total := (inp c).1.length, now := (inp c).1.length, tail := 0,
                isfinal := decide ((inp c).2 = .final) } ispad

/-- output of the sequential pipeline: chunks 0 … n-1 in order -/
def seqOut (f : σ → Block → σ × Block) (inp : Input) (ispad : Bool) (T : Nat) (ws0 : Nat → σ) (n : Nat) : Bytes :=
  ((List.range n).map (refExport f inp ispad T ws0)).flatten

/-! ### Conformance replay (driver protocol): the harness runs the real pipeline under a controlled scheduler and reports,
for every scheduling interval, which thread ran and the shared observables afterwards; each interval must correspond to
zero or more steps of the same model thread ending in a state with the same observables. -/

/-- toy per-stream transformer used by the schedule harness on both sides: a counter, xor-ed into every byte -/
def toyF (s : Nat) (b : Block) : Nat × Block := (s + 1, b.map (· ^^^ BitVec.ofNat 8 (s + 1)))

def fnv1a (bs : Bytes) : Nat := bs.foldl (fun h b => ((h ^^^ b.toNat) * 16777619) % 4294967296) 2166136261

def bstNum : BSt → Nat | .empty => 0 | .updating => 1 | .ready => 2 | .inv => 3

/-- shared observables: per buffer (state, total, now, isfinal, hash of its first `total` blocks), the exported bytes, the stream counters -/
def obsStr (T : Nat) (s : St Nat) : String :=
  let bufs := (List.range T).map fun i =>
    let b := s.buf i
    s!"{bstNum b.st},{b.total},{b.now},{if s.fin i then 1 else 0},{fnv1a (joinBlocks ((s.dat i).take b.total))}"
  let wss := (List.range T).map fun i => toString (s.ws i)
  s!"{";".intercalate bufs}|{s.out.length},{fnv1a s.out}|{",".intercalate wss}"

def parseLoad? (w : String) : Option (List Block × LSt) :=
  match w.splitOn ":" with
  | [l, h] =>
    match unhex? h with
    | none => none
    | some bs =>
      let (bl, t) := splitBlocks bs
      if !t.isEmpty then none else
      match l with
      | "f" => some (bl, .full) | "F" => some (bl, .final) | "n" => some (bl, .nodata) | _ => none
  | _ => none

def parseInterval? (w : String) : Option (Option Nat × String) :=
  match w.splitOn "/" with
  | [t, o] => if t = "io" then some (none, o) else t.toNat?.map fun n => (some n, o)
  | _ => none

/-- advance thread `tid` by 0..fuel steps until the observables equal `want` -/
def advance (inp : Input) (ispad : Bool) (T : Nat) (tid : Option Nat) (want : String) : Nat → St Nat → Option (St Nat)
  | 0, s => if obsStr T s = want then some s else none
  | fuel + 1, s =>
    if obsStr T s = want then some s
    else match step toyF inp ispad T s tid with
      | none => none
      | some s' => advance inp ispad T tid want fuel s'

def replay (inp : Input) (ispad : Bool) (T : Nat) : Nat → St Nat → List (Option Nat × String) → String
  | k, s, [] =>
    s!"ok {k} done={if s.iopc = .done ∧ (List.range T).all (fun i => s.wpc i = .done) then 1 else 0} viol={if s.viol then 1 else 0} nexp={s.nexp}"
  | k, s, (tid, want) :: rest =>
    match advance inp ispad T tid want 8 s with
    | some s' => replay inp ispad T (k + 1) s' rest
    | none => s!"reject@{k} model={obsStr T s}"

/-- `pipe <T> <ispad> <load> … ; <interval> …`; stream counters start at 100·i -/
def driverPipe (ws : List String) : String :=
  match ws with
  | T :: ip :: rest =>
    match T.toNat? with
    | none => "bad-op"
    | some T =>
      let loads := rest.takeWhile (· ≠ ";")
      let ivs := (rest.dropWhile (· ≠ ";")).drop 1
      match loads.mapM parseLoad?, ivs.mapM parseInterval? with
      | some ls, some is =>
        let inp : Input := fun p => ls.getD p ([], .nodata)
        replay inp (ip = "1") T 0 (init T (fun i => 100 * i)) is
      | _, _ => "bad-op"
  | _ => "bad-op"

end Wencry.Model.Pipe
