/-
The position law of CTR mode (mode number 2) for the model's stream object: after n blocks the counter stands at IV + n (mod 2^128), so that
the object is the one a fresh factory would create there (C10 states it so), and keystream block j is the cipher of IV + j. This is the oracle of the `ctrlong` harness suite (a stream of
2^27 blocks is compared with fresh objects started at IV + j instead of with a reference implementation).
-/
import Wencry.Proofs.ModesCorrect
namespace Wencry.Proofs.CtrPosition
open Wencry Wencry.Model.Modes

/-- the counter block `n` steps after `iv` -/
def addCtr (iv : Block) (n : Nat) : Block := Spec.Modes.ofNat128 ((Spec.Modes.toNat128 iv + n) % 2 ^ 128)

theorem toNat128_addCtr (iv : Block) (n : Nat) : Spec.Modes.toNat128 (addCtr iv n) = (Spec.Modes.toNat128 iv + n) % 2 ^ 128 :=
  Modes.toNat128_ofNat128 _ (Nat.mod_lt _ (Nat.two_pow_pos 128))

theorem addCtr_zero (iv : Block) : addCtr iv 0 = iv := by
  rw [addCtr, Nat.add_zero, Nat.mod_eq_of_lt (Modes.toNat128_lt iv), Modes.ofNat128_toNat128]

theorem addCtr_succ (iv : Block) (n : Nat) : ctrInc (addCtr iv n) = addCtr iv (n + 1) := by
  rw [Modes.ctrInc_eq, Spec.Modes.inc128, toNat128_addCtr, Nat.mod_add_mod, Nat.add_assoc]; rfl

-- the offset `k` is there for the induction
theorem run_ctr (f : Block → Block) (iv : Block) (k : Nat) (bs : List Block) :
    ({ kind := .ctr, crypt := f, iv := addCtr iv k } : Stream).run bs
      = ({ kind := .ctr, crypt := f, iv := addCtr iv (k + bs.length) }, bs.mapIdx fun j b => b.xor (f (addCtr iv (k + j)))) := by
  induction bs generalizing k with
  | nil => rfl
  | cons b bs ih =>
    simp only [Modes.run_cons, Stream.runcry, addCtr_succ, ih, List.length_cons, List.mapIdx_cons, Nat.add_zero,
      Nat.add_assoc, Nat.add_comm 1]

theorem create_ctr (isenc : Bool) (key iv : Block) :
    create isenc 2 key iv = some { kind := .ctr, crypt := cryptFn .ctr key, iv := iv } :=
  Modes.create_of_factoryKind (by cases isenc <;> rfl) key iv

theorem create_ctr_eq {isenc : Bool} {key iv : Block} {s : Stream} (hs : create isenc 2 key iv = some s) :
    s = { kind := .ctr, crypt := cryptFn .ctr key, iv := iv } :=
  (Option.some.inj ((create_ctr isenc key iv).symm.trans hs)).symm

theorem create_ctr_run {isenc : Bool} {key iv : Block} {s : Stream} (hs : create isenc 2 key iv = some s) (bs : List Block) :
    s.run bs = ({ s with iv := addCtr iv bs.length }, bs.mapIdx fun j b => b.xor (s.crypt (addCtr iv j))) := by
  cases create_ctr_eq hs
  simpa only [addCtr_zero, Nat.zero_add] using run_ctr (cryptFn .ctr key) iv 0 bs

theorem ctr_block_at {isenc : Bool} {key iv : Block} {s : Stream} (hs : create isenc 2 key iv = some s) (bs : List Block) (j : Nat)
    (hj : j < bs.length) :
    (s.run bs).2[j]? = some ((bs[j]'hj).xor (s.crypt (addCtr iv j))) := by
  rw [create_ctr_run hs, List.getElem?_mapIdx, List.getElem?_eq_getElem hj]; rfl

theorem ctr_position_law (isenc : Bool) (key iv : Block) (s s' : Stream) (hs : create isenc 2 key iv = some s) (bs : List Block) (j : Nat)
    (hj : j < bs.length) (hs' : create isenc 2 key (addCtr iv j) = some s') :
    (s.run bs).2[j]? = (s'.run [bs[j]'hj]).2[0]? := by
  rw [ctr_block_at hs bs j hj, ctr_block_at hs' [bs[j]'hj] 0 Nat.zero_lt_one, addCtr_zero]
  cases create_ctr_eq hs
  cases create_ctr_eq hs'
  rfl

end Wencry.Proofs.CtrPosition

section AxiomCheck
open Wencry.Proofs.CtrPosition
#print axioms addCtr_zero
#print axioms addCtr_succ
#print axioms create_ctr_run
#print axioms ctr_block_at
#print axioms ctr_position_law
end AxiomCheck
