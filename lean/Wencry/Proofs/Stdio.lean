/-
What the modelled stdio operations (Model/Stdio.lean) do: the parts of the result of `fread`, the look-ahead `peekEof` and `fwrite`;
an output stream positioned at its end, where every `fwrite` appends; and what a write at an offset changes (`writeAt`, `replay`).
-/
import Wencry.Model.Stdio
namespace Wencry.Proofs.Stdio
open Wencry Wencry.Model.Stdio

theorem fread_snd (f : RFile) (n : Nat) : (f.fread n).2 = (f.data.drop f.pos).take n := rfl
theorem fread_data (f : RFile) (n : Nat) : (f.fread n).1.data = f.data := rfl
theorem fread_pos (f : RFile) (n : Nat) : (f.fread n).1.pos = f.pos + (f.fread n).2.length := rfl
theorem fread_eof (f : RFile) (n : Nat) : (f.fread n).1.eof = (f.eof || decide ((f.fread n).2.length < n)) := rfl

theorem fread_length_le (f : RFile) (n : Nat) : (f.fread n).2.length ≤ n := by
  rw [fread_snd, List.length_take]; exact Nat.min_le_left _ _

theorem fread_rem (f : RFile) (n : Nat) :
    (f.fread n).2 ++ (f.fread n).1.data.drop (f.fread n).1.pos = f.data.drop f.pos := by
  rw [fread_data, fread_pos, fread_snd, ← List.drop_drop, List.length_take]
  by_cases h : n ≤ (f.data.drop f.pos).length
  · rw [Nat.min_eq_left h, List.take_append_drop]
  · have h' : (f.data.drop f.pos).length ≤ n := by omega
    rw [Nat.min_eq_right h', List.take_of_length_le h', List.drop_length, List.append_nil]

theorem fread_short (f : RFile) (n : Nat) (h : (f.fread n).2.length < n) :
    (f.fread n).1.data.length ≤ (f.fread n).1.pos := by
  rw [fread_snd, List.length_take, List.length_drop] at h
  rw [fread_data, fread_pos, fread_snd, List.length_take, List.length_drop]
  omega

theorem remaining_eq (f : RFile) : f.remaining = (f.data.drop f.pos).length := by simp [RFile.remaining]

theorem peekEof_data (f : RFile) : f.peekEof.1.data = f.data := by unfold RFile.peekEof; split <;> rfl
theorem peekEof_pos (f : RFile) : f.peekEof.1.pos = f.pos := by unfold RFile.peekEof; split <;> rfl
theorem peekEof_snd (f : RFile) : f.peekEof.2 = decide (f.data.length ≤ f.pos) := by
  unfold RFile.peekEof; split <;> simp <;> omega
theorem peekEof_eof (f : RFile) : f.peekEof.1.eof = (f.eof || f.peekEof.2) := by
  unfold RFile.peekEof; split <;> simp
theorem peekEof_drop (f : RFile) : f.peekEof.1.data.drop f.peekEof.1.pos = f.data.drop f.pos := by
  rw [peekEof_data, peekEof_pos]

theorem fwrite_nil (f : WFile) : f.fwrite [] = f := rfl
theorem fwrite_ne_nil (f : WFile) {bs : Bytes} (h : bs ≠ []) :
    f.fwrite bs = { data := writeAt f.data f.pos bs, pos := f.pos + bs.length, log := f.log ++ [(f.pos, bs)] } := by
  cases bs with
  | nil => exact absurd rfl h
  | cons b bs => rfl

theorem writeAt_end (d bs : Bytes) : writeAt d d.length bs = d ++ bs := by
  simp only [writeAt, Nat.lt_irrefl, if_false, List.take_length]
  rw [List.drop_eq_nil_of_le (by omega)]
  simp

theorem writeAt_inside (d : Bytes) (off : Nat) (bs : Bytes) (h : off ≤ d.length) :
    writeAt d off bs = d.take off ++ bs ++ d.drop (off + bs.length) := by
  simp only [writeAt, if_neg (Nat.not_lt.2 h)]

theorem writeAt_take (d : Bytes) (off : Nat) (bs : Bytes) (h : off ≤ d.length) :
    (writeAt d off bs).take off = d.take off := by
  rw [writeAt_inside d off bs h, List.append_assoc]
  exact List.take_left' (by simp only [List.length_take]; omega)

theorem writeAt_drop (d : Bytes) (off : Nat) (bs : Bytes) (n : Nat) (h : off ≤ d.length) (hn : off + bs.length ≤ n) :
    (writeAt d off bs).drop n = d.drop n := by
  rw [writeAt_inside d off bs h]
  have hl : (d.take off ++ bs).length = off + bs.length := by
    simp only [List.length_append, List.length_take]; omega
  rw [List.drop_append, List.drop_eq_nil_of_le (by omega), List.drop_drop, hl, List.nil_append]
  congr 1
  omega

theorem writeAt_getD (d : Bytes) (off : Nat) (bs : Bytes) (i : Nat) (h : off ≤ d.length) (hi : i < off) :
    (writeAt d off bs).getD i 0 = d.getD i 0 := by
  have := writeAt_take d off bs h
  have h1 : ((writeAt d off bs).take off)[i]? = (writeAt d off bs)[i]? := List.getElem?_take_of_lt hi
  have h2 : (d.take off)[i]? = d[i]? := List.getElem?_take_of_lt hi
  rw [List.getD_eq_getElem?_getD, List.getD_eq_getElem?_getD, ← h1, ← h2, this]

theorem eq_writeAt (d bs S : Bytes) (off : Nat) (h : off ≤ d.length) (h1 : S.take off = d.take off)
    (h2 : (S.drop off).take bs.length = bs) (h3 : S.drop (off + bs.length) = d.drop (off + bs.length)) : S = writeAt d off bs := by
  have hmid : bs ++ (S.drop off).drop bs.length = S.drop off := by
    conv => lhs; arg 1; rw [← h2]
    exact List.take_append_drop _ _
  rw [writeAt_inside d off bs h, ← h1, ← h3, ← List.drop_drop, List.append_assoc, hmid, List.take_append_drop]

theorem replay_append_one (l : List (Nat × Bytes)) (o : Nat) (w : Bytes) : replay (l ++ [(o, w)]) = writeAt (replay l) o w := by
  simp [replay, List.foldl_append]


theorem fwrite_end (f : WFile) (bs : Bytes) (h : f.pos = f.data.length) :
    (f.fwrite bs).data = f.data ++ bs ∧ (f.fwrite bs).pos = (f.fwrite bs).data.length := by
  cases bs with
  | nil => simp [fwrite_nil, h]
  | cons b bs => simp [fwrite_ne_nil, h, writeAt_end]

theorem foldl_fwrite_end (ws : List Bytes) (f : WFile) (h : f.pos = f.data.length) :
    (ws.foldl WFile.fwrite f).data = f.data ++ ws.flatten ∧ (ws.foldl WFile.fwrite f).pos = (ws.foldl WFile.fwrite f).data.length := by
  induction ws generalizing f with
  | nil => simp [h]
  | cons w ws ih =>
    obtain ⟨h1, h2⟩ := fwrite_end f w h
    simp [ih _ h2, h1]

theorem foldl_fwrite_ind (P : WFile → Prop) (hP : ∀ w bs, P w → P (w.fwrite bs)) (ws : List Bytes) (f : WFile) (h : P f) :
    P (ws.foldl WFile.fwrite f) := by
  induction ws generalizing f with
  | nil => exact h
  | cons w ws ih => exact ih _ (hP _ _ h)

end Wencry.Proofs.Stdio
