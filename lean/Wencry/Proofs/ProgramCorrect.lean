/-
The whole program (Model/Program.lean) on the option-driven path: it never faults, and what the two runs of C17's last sentence
do: `-e -i F` with defaults writes `F.wenc` and prints the key; `-d -i F.wenc -k <key> -o G` writes what the decryption yields.
-/
import Wencry.Model.Program
import Wencry.Proofs.CliCorrect
import Wencry.Proofs.Roundtrip
namespace Wencry.Proofs.Program
open Wencry Wencry.Model Wencry.Model.Cli Wencry.Model.File Wencry.Model.Program

theorem read_write_same (fs : FS) (p : Path) (d : Bytes) : (fs.write p d).read p = some d := by
  simp [FS.read, FS.write]

theorem find_filter_ne (l : List (Path × Bytes)) {p q : Path} (h : q ≠ p) :
    (l.filter (fun e => e.1 ≠ p)).find? (fun e => e.1 = q) = l.find? (fun e => e.1 = q) := by
  induction l with
  | nil => rfl
  | cons a t ih =>
    by_cases ha : a.1 = p
    · have hq : ¬ a.1 = q := by rw [ha]; exact fun e => h e.symm
      rw [List.filter_cons_of_neg (by simpa using ha), List.find?_cons_of_neg (by simpa using hq), ih]
    · rw [List.filter_cons_of_pos (by simpa using ha), List.find?_cons, List.find?_cons, ih]

theorem read_write_other (fs : FS) {p q : Path} (d : Bytes) (h : q ≠ p) : (fs.write p d).read q = fs.read q := by
  have hpq : ¬ p = q := fun e => h e.symm
  simp only [FS.read, FS.write]
  rw [List.find?_cons_of_neg (by simpa using hpq), find_filter_ne _ h]

theorem run_no_fault (cfg : Cfg) (hT : 1 ≤ cfg.T) (hB : 1 ≤ cfg.B) (hH : 1 ≤ cfg.H) (fs : FS) (canCreate : Path → Bool)
    (rkey rseed : Bytes) (args : List Arg) : ∃ r, run cfg fs canCreate rkey rseed args = .ok r := by
  unfold run
  simp only [bind, Except.bind, pure, Except.pure]
  generalize parseEffects canCreate fs Pak.init (args.map (toTok fs canCreate)) = fs1
  generalize hg : getVOpt _ _ = g
  obtain ⟨o, rfl⟩ := hg ▸ Cli.getVOpt_no_fault _ _
  rcases o with _ | _ | ⟨op, inp, out, key, c, h, ne⟩
  · exact ⟨_, rfl⟩
  · exact ⟨_, rfl⟩
  obtain ⟨hs, _, he, _, _⟩ := Cli.getVOpt_run_wf hg
  simp only [hs, Bool.not_true, Bool.false_eq_true, if_false]
  cases op with
  | encrypt =>
    obtain ⟨_, hc0, hc4, hh0, hh2⟩ := he rfl
    obtain ⟨f, hf⟩ := Roundtrip.encrypt_ok cfg hT hB hH c.toNat h.toNat (by omega) (by omega) (Block.ofListD (key.getD rkey)) rseed
      ((fs1.read inp).getD [])
    simp only [hf]
    exact ⟨_, rfl⟩
  | decrypt =>
    obtain ⟨code, o, hd, _⟩ := FileLogic.decrypt_total cfg hH (Block.ofListD (key.getD [])) ((fs1.read inp).getD [])
    simp only [hd]
    exact ⟨_, rfl⟩
  | verify =>
    simp only [FileLogic.executeVerify_eq cfg hH]
    exact ⟨_, rfl⟩

theorem run_encrypt_default {cfg : Cfg} {fs : FS} {F : Path} {P : Bytes} {canCreate : Path → Bool} {rkey rseed : Bytes} {f : Stdio.WFile}
    (hF : fs.read F = some P) (hlen : F.length + 5 < 128) (hc1 : canCreate (F ++ dotWenc) = true)
    (hf : encrypt cfg 0 0 (Block.ofListD rkey) rseed P = .ok f) :
    run cfg fs canCreate rkey rseed [.e, .i F] =
      .ok { fs := fs.write (F ++ dotWenc) f.data, status := 0, printedKey := some (Spec.Base64.encode rkey) } := by
  have hp : parseEffects canCreate fs Pak.init [.e, .i F true] = fs := by
    simp [parseEffects, parseOpt, setMode, Pak.init]
  unfold run
  simp only [List.map, toTok, hF, Option.isSome_some, hp, List.findSome?, Option.map, hc1, Cli.default_output, hlen]
  simp [bind, Except.bind, pure, Except.pure, settingsOk, hF, hf, Base64.hexToBase64_eq]

theorem run_decrypt_printed_key {cfg : Cfg} {fs : FS} {I G : Path} {D : Bytes} {canCreate : Path → Bool} {rkey : Bytes} {out : Stdio.WFile}
    (hI : fs.read I = some D) (hc2 : canCreate G = true) (hGI : G ≠ I) (rkey' rseed' : Bytes) (hk : rkey.length = 16)
    (hd : decrypt cfg (Block.ofListD rkey) D = .ok (0, out)) :
    run cfg fs canCreate rkey' rseed' [.d, .i I, .k (Spec.Base64.encode rkey), .o G] =
      .ok { fs := (fs.write G []).write G out.data, status := 0, printedKey := none } := by
  obtain ⟨hv, hg⟩ := Base64.printed_key_accepted rkey hk
  have hp : parseEffects canCreate fs Pak.init [.d, .i I true, .k (Spec.Base64.encode rkey), .o G true] = fs.write G [] := by
    simp [parseEffects, parseOpt, setMode, Pak.init, hv, hg]
  have hgv := Cli.decrypt_with_printed_key rkey hk I G
  have hr : (fs.write G []).read I = some D := by rw [read_write_other _ _ hGI.symm, hI]
  unfold run
  simp only [List.map, toTok, hI, Option.isSome_some, hp, hc2, hgv]
  simp [bind, Except.bind, pure, Except.pure, settingsOk, hr, hd]

end Wencry.Proofs.Program

section AxiomCheck
open Wencry.Proofs.Program
#print axioms read_write_same
#print axioms read_write_other
#print axioms run_no_fault
#print axioms run_encrypt_default
#print axioms run_decrypt_printed_key
end AxiomCheck
