/-
The control invariant `PInv` of the pipeline (Model/Pipe.lean) is, per buffer, a compatibility table between the buffer's state, its
worker's program point and the I/O thread's region (`BufOK`; DESIGN.md, Appendix A). Its preservation checks the row of the buffer a
step touches (`BufOK_stepW`, `BufOK_stepIo`) and frames the others, except where `turn` or a sleeper's program point moves
(`turn_iter`, spurious wake-ups); deadlock freedom, ownership and exclusion are read off it at a state.
-/
import Wencry.Model.PipeSpurious
namespace Wencry.Proofs.PipeCtl
open Wencry Wencry.Model.Pipe Wencry.Model.PipeSpurious Wencry.Model.IoBuffer

variable {σ : Type}

def liveCount : Nat → (Nat → Buf) → Nat
  | 0, _ => 0
  | T+1, buf => liveCount T buf + (if (buf T).st ≠ .inv then 1 else 0)

/-- The rows by buffer state, the same rows by the worker's program point (a new program point needs its disjunct in both), five
    clauses about the I/O thread. Two protocol facts sit in the rows: a worker that finds its buffer READY after a wait finds a block
    (`now = 0`; else `fetch2` could return from a READY buffer), and an INV buffer has `now = total`, so `fetch` on it leads to
    `setUpd`, never to `process`. The last clause is there for the data invariant, at `exporting` and `loading`. -/
def BufOK (s : St σ) (i : Nat) : Prop :=
  let b := s.buf i; let p := s.wpc i
  (b.st = .empty → (p = .initWait ∨ p = .initSleep)) ∧
  (b.st = .ready → (p = .initWait ∨ p = .fetch ∨ p = .process ∨ p = .setUpd ∨ p = .waitRdy ∨ p = .afterWait ∨ p = .fetch2)
      ∧ 1 ≤ b.total ∧ b.now ≤ b.total ∧ ¬ ioIn s i
      ∧ (p = .process → 1 ≤ b.now) ∧ ((p = .waitRdy ∨ p = .afterWait ∨ p = .fetch2) → b.now = 0)) ∧
  (b.st = .updating → (p = .waitRdy ∨ p = .sleepRdy)) ∧
  (b.st = .inv → (p = .initWait ∨ p = .fetch ∨ p = .setUpd ∨ p = .waitRdy ∨ p = .afterWait ∨ p = .done)
      ∧ ¬ ioIn s i ∧ b.now = b.total) ∧
  (p = .initSleep → b.st = .empty) ∧
  (p = .sleepRdy → b.st = .updating) ∧
  (p = .setUpd → b.st = .ready ∧ b.now = b.total ∨ b.st = .inv) ∧
  ((p = .fetch ∨ p = .process ∨ p = .fetch2) → b.st = .ready ∨ (b.st = .inv ∧ p = .fetch)) ∧
  (ioIn s i → b.st = .empty ∨ b.st = .updating) ∧
  (s.turn = i → s.iopc = .exporting → b.st = .updating) ∧
  (s.turn = i → s.iopc = .sleepUpd → b.st = .ready) ∧
  (s.turn = i → (s.iopc = .waitUpd ∨ s.iopc = .sleepUpd) → b.st ≠ .inv) ∧
  ((b.st = .empty ∨ b.st = .updating) → ¬ (s.turn = i ∧ s.iopc = .setRdy) → b.now = b.total)

def PInv (T : Nat) (s : St σ) : Prop :=
  (s.iopc ≠ .done → s.turn < T) ∧
  s.live = liveCount T s.buf ∧
  (s.iopc = .done → s.live = 0) ∧
  (s.iopc = .setRdy → s.lst ≠ .nodata → 1 ≤ (s.buf s.turn).total ∧ (s.buf s.turn).now = 0) ∧
  (s.iopc = .setRdy → s.lst = .nodata → (s.buf s.turn).now = (s.buf s.turn).total) ∧
  (∀ i, i < T → BufOK s i)

/-- without spurious wake-ups; with them: `Model.PipeSpurious.ReachS` -/
inductive Reach (f : σ → Block → σ × Block) (inp : Input) (ispad : Bool) (T : Nat) (ws0 : Nat → σ) : St σ → Prop
  | init : Reach f inp ispad T ws0 (init T ws0)
  | step (s s' : St σ) (tid : Option Nat) : Reach f inp ispad T ws0 s → step f inp ispad T s tid = some s' → Reach f inp ispad T ws0 s'

def parked (p : WPc) : Prop := p = .initWait ∨ p = .initSleep ∨ p = .waitRdy ∨ p = .sleepRdy

theorem parked.not_process {p : WPc} (h : parked p) : p ≠ .process ∧ wake p ≠ .process := by
  rcases h with h | h | h | h <;> simp [h, wake]

theorem BSt_cases (x : BSt) : x = .empty ∨ x = .updating ∨ x = .ready ∨ x = .inv := by cases x <;> simp

theorem liveCount_congr {T : Nat} {f g : Nat → Buf} (h : ∀ i, i < T → ((f i).st = .inv ↔ (g i).st = .inv)) :
    liveCount T f = liveCount T g := by
  induction T with
  | zero => rfl
  | succ n ih => simp [liveCount, ih (fun i hi => h i (by omega)), h n (by omega)]

theorem liveCount_le (T : Nat) (f : Nat → Buf) : liveCount T f ≤ T := by
  induction T with
  | zero => simp [liveCount]
  | succ n ih => simp only [liveCount]; split <;> omega

theorem liveCount_init {T : Nat} {f : Nat → Buf} (h : ∀ i, i < T → (f i).st ≠ .inv) : liveCount T f = T := by
  induction T with
  | zero => rfl
  | succ n ih => simp [liveCount, ih fun i hi => h i (by omega), h n (by omega)]

theorem liveCount_upd_same (T : Nat) {f : Nat → Buf} {i : Nat} {b : Buf} (h : (b.st = .inv ↔ (f i).st = .inv)) :
    liveCount T (upd f i b) = liveCount T f := by
  refine liveCount_congr fun k _ => ?_
  by_cases hk : k = i
  · subst hk; simp [h]
  · simp [hk]

theorem liveCount_upd_inv {T : Nat} {f : Nat → Buf} {i : Nat} {b : Buf} (hi : i < T)
    (hf : (f i).st ≠ .inv) (hb : b.st = .inv) : liveCount T (upd f i b) + 1 = liveCount T f := by
  induction T with
  | zero => omega
  | succ n ih =>
    simp only [liveCount]
    by_cases hin : i = n
    · subst hin
      have : liveCount i (upd f i b) = liveCount i f :=
        liveCount_congr fun k hk => by rw [upd_other _ _ _ _ (by omega : k ≠ i)]
      simp [this, hb, hf]
    · have := ih (by omega)
      rw [upd_other _ _ _ _ (by omega : n ≠ i)]
      omega

theorem liveCount_pos_iff {T : Nat} {f : Nat → Buf} : 0 < liveCount T f ↔ ∃ k, k < T ∧ (f k).st ≠ .inv := by
  induction T with
  | zero => simp [liveCount]
  | succ n ih =>
    simp only [liveCount]
    constructor
    · intro h
      by_cases hn : (f n).st ≠ .inv
      · exact ⟨n, by omega, hn⟩
      · obtain ⟨k, hk, hk'⟩ := ih.1 (by simpa [hn] using h)
        exact ⟨k, by omega, hk'⟩
    · rintro ⟨k, hk, hk'⟩
      by_cases hkn : k = n
      · subst hkn; simp [hk']
      · have := ih.2 ⟨k, by omega, hk'⟩; omega

theorem liveCount_zero_all {T : Nat} {f : Nat → Buf} (h : liveCount T f = 0) (k : Nat) (hk : k < T) : (f k).st = .inv :=
  Classical.byContradiction fun hne => by have := liveCount_pos_iff.2 ⟨k, hk, hne⟩; omega

theorem nextTurn_aux {T : Nat} (buf : Nat → Buf) (hT : 0 < T) :
    ∀ fuel t, (∃ d, 1 ≤ d ∧ d ≤ fuel ∧ (buf ((t + d) % T)).st ≠ .inv) →
      nextTurn T buf t fuel < T ∧ (buf (nextTurn T buf t fuel)).st ≠ .inv := by
  intro fuel
  induction fuel with
  | zero => intro t ⟨d, h1, h2, _⟩; omega
  | succ n ih =>
    intro t ⟨d, h1, h2, h3⟩
    simp only [nextTurn]
    split
    · rename_i hne
      exact ⟨Nat.mod_lt _ hT, hne⟩
    · rename_i hinv
      have hd : d ≠ 1 := by
        intro h; subst h; exact hinv h3
      apply ih
      refine ⟨d - 1, by omega, by omega, ?_⟩
      have : ((t + 1) % T + (d - 1)) % T = (t + d) % T := by
        rw [Nat.mod_add_mod]; congr 1; omega
      rw [this]; exact h3

theorem nextTurn_spec {T : Nat} {buf : Nat → Buf} (t : Nat) (hT : 0 < T) (hex : ∃ k, k < T ∧ (buf k).st ≠ .inv) :
    nextTurn T buf t T < T ∧ (buf (nextTurn T buf t T)).st ≠ .inv := by
  apply nextTurn_aux buf hT
  obtain ⟨k, hk, hk'⟩ := hex
  -- the distance d from t to k going forward, in 1..T: t + d ≡ k (mod T)
  have hmod : ∀ d q, t + d = T * q + k → (buf ((t + d) % T)).st ≠ .inv := fun d q e => by
    rw [e, Nat.mul_add_mod, Nat.mod_eq_of_lt hk]; exact hk'
  have h1 : t = T * (t / T) + t % T := (Nat.div_add_mod t T).symm
  have h2 := Nat.mod_lt t hT
  by_cases h : t % T < k
  · exact ⟨k - t % T, by omega, by omega, hmod _ (t / T) (by omega)⟩
  · exact ⟨k + T - t % T, by omega, by omega, hmod _ (t / T + 1) (by rw [Nat.mul_add]; omega)⟩

theorem nextTurn_first {T : Nat} (buf : Nat → Buf) (t : Nat) (hT : 0 < T) (h : (buf ((t + 1) % T)).st ≠ .inv) :
    nextTurn T buf t T = (t + 1) % T := by
  cases T with
  | zero => omega
  | succ k => simp only [nextTurn]; rw [if_pos h]

section
variable {f : σ → Block → σ × Block} {inp : Input} {ispad : Bool} {T i : Nat} {s s' : St σ} {tid : Option Nat}

theorem step_some (hi : i < T) : step f inp ispad T s (some i) = stepW f s i := if_pos hi

/-- a worker is blocked exactly when it is asleep or has returned -/
theorem stepW_isSome_iff : (stepW f s i).isSome ↔ s.wpc i ≠ .initSleep ∧ s.wpc i ≠ .sleepRdy ∧ s.wpc i ≠ .done := by
  cases hpc : s.wpc i <;> simp only [stepW, hpc] <;> (try split) <;> simp

theorem stepIo_isSome_iff : (stepIo inp ispad T s).isSome ↔ s.iopc ≠ .sleepUpd ∧ s.iopc ≠ .done := by
  cases hpc : s.iopc <;> simp only [stepIo, hpc] <;> (try split) <;> simp

theorem PInv.turn_lt (h : PInv T s) (hpc : s.iopc ≠ .done) : s.turn < T := h.1 hpc
theorem PInv.live_eq (h : PInv T s) : s.live = liveCount T s.buf := h.2.1
theorem PInv.done_live (h : PInv T s) (hpc : s.iopc = .done) : s.live = 0 := h.2.2.1 hpc
theorem PInv.loaded (h : PInv T s) (hpc : s.iopc = .setRdy) (hl : s.lst ≠ .nodata) :
    1 ≤ (s.buf s.turn).total ∧ (s.buf s.turn).now = 0 := h.2.2.2.1 hpc hl
theorem PInv.not_loaded (h : PInv T s) (hpc : s.iopc = .setRdy) (hl : s.lst = .nodata) :
    (s.buf s.turn).now = (s.buf s.turn).total := h.2.2.2.2.1 hpc hl
theorem PInv.bufOK (h : PInv T s) (hi : i < T) : BufOK s i := h.2.2.2.2.2 i hi
theorem PInv.turn_lt_of_stepIo (h : PInv T s) (hs : stepIo inp ispad T s = some s') : s.turn < T :=
  h.turn_lt (stepIo_isSome_iff.1 (by rw [hs]; rfl)).2

theorem PInv.done_inv (h : PInv T s) (hpc : s.iopc = .done) : ∀ k, k < T → (s.buf k).st = .inv :=
  liveCount_zero_all (h.live_eq ▸ h.done_live hpc)

theorem PInv_init (hT : 0 < T) (ws0 : Nat → σ) : PInv T (init T ws0) := by
  refine ⟨fun _ => hT, ?_, by simp [init], by simp [init], by simp [init], ?_⟩
  · exact (liveCount_init fun _ _ => by simp [init]).symm
  · intro i _; simp [BufOK, init, ioIn]

theorem BufOK.asleep (hb : BufOK s i) :
    (s.wpc i = .initSleep → (s.buf i).st = .empty) ∧ (s.wpc i = .sleepRdy → (s.buf i).st = .updating) := by
  simp only [BufOK] at hb; grind

theorem BufOK.ready_runs (hb : BufOK s i) (hst : (s.buf i).st = .ready) :
    s.wpc i ≠ .initSleep ∧ s.wpc i ≠ .sleepRdy ∧ s.wpc i ≠ .done := by
  simp only [BufOK] at hb; grind

theorem BufOK.inv_awake (hb : BufOK s i) (hst : (s.buf i).st = .inv) : s.wpc i ≠ .initSleep ∧ s.wpc i ≠ .sleepRdy := by
  simp only [BufOK] at hb; grind

theorem BufOK.at_process (hb : BufOK s i) (hp : s.wpc i = .process) :
    (s.buf i).st = .ready ∧ (s.buf i).now ≤ (s.buf i).total ∧ 1 ≤ (s.buf i).now := by
  simp only [BufOK] at hb; grind

theorem BufOK.io_complete (hb : BufOK s i) (hio : ioIn s i) (hpc : s.iopc ≠ .setRdy) : (s.buf i).now = (s.buf i).total := by
  simp only [BufOK] at hb; grind

theorem BufOK.sleepUpd_ready (hb : BufOK s s.turn) (hpc : s.iopc = .sleepUpd) : (s.buf s.turn).st = .ready := by
  simp only [BufOK] at hb; grind

theorem BufOK.exporting_updating (hb : BufOK s s.turn) (hpc : s.iopc = .exporting) : (s.buf s.turn).st = .updating := by
  simp only [BufOK] at hb; grind

/-- `fetch` counts only on a buffer that is not INV: on an INV buffer the worker still reads `now` and `total` there -/
theorem ownership (T : Nat) (s : St σ) (h : PInv T s) (i : Nat) (hi : i < T)
    (hw : s.wpc i = .process ∨ s.wpc i = .fetch2 ∨ (s.wpc i = .fetch ∧ (s.buf i).st ≠ .inv)) :
    (s.buf i).st = .ready ∧ ¬ ioIn s i := by
  have hb := h.bufOK hi
  simp only [BufOK] at hb
  have hr : (s.buf i).st = .ready := by grind
  exact ⟨hr, by grind⟩

theorem io_exclusive (h : PInv T s) (hi : i < T) (hio : ioIn s i) :
    ((s.buf i).st = .empty ∨ (s.buf i).st = .updating) ∧ parked (s.wpc i) := by
  have hb := h.bufOK hi
  simp only [BufOK] at hb
  have hs : (s.buf i).st = .empty ∨ (s.buf i).st = .updating := by grind
  exact ⟨hs, by simp only [parked]; grind⟩

theorem BufOK_frame {j : Nat} (h : BufOK s j) (hb : s'.buf j = s.buf j) (hp : s'.wpc j = s.wpc j)
    (ht : s'.turn = s.turn) (hio : s.turn = j → s'.iopc = s.iopc) : BufOK s' j := by
  simp only [BufOK, ioIn, hb, hp, ht] at h ⊢
  by_cases hj : s.turn = j
  · rw [hio hj]; exact h
  · simpa [hj] using h

structure WFrame (s s' : St σ) (i : Nat) : Prop where
  turn : s'.turn = s.turn
  over : s'.over = s.over
  lst : s'.lst = s.lst
  pos : s'.pos = s.pos
  live : s'.live = s.live
  nexp : s'.nexp = s.nexp
  out : s'.out = s.out
  fin : s'.fin = s.fin
  cid : s'.cid = s.cid
  iopc : s'.iopc = s.iopc ∨ (s.iopc = .sleepUpd ∧ s.turn = i ∧ s'.iopc = .waitUpd)
  other : ∀ j, j ≠ i → s'.buf j = s.buf j ∧ s'.wpc j = s.wpc j ∧ s'.dat j = s.dat j ∧ s'.ws j = s.ws j
  parked : parked (s.wpc i) → s'.buf i = s.buf i
  inv : (s'.buf i).st = .inv ↔ (s.buf i).st = .inv
  quiet : s.wpc i ≠ .process → s'.dat = s.dat ∧ s'.ws = s.ws ∧ s'.log = s.log
  log : s'.log = s.log ∨ ∃ c k, s'.log = s.log ++ [(i, c, k)]

theorem stepW_frame (hs : stepW f s i = some s') : WFrame s s' i := by
  cases hpc : s.wpc i <;> simp only [stepW, hpc] at hs <;> (try split at hs) <;> cases hs
  -- `set_update` on a READY buffer is the only worker step that moves the I/O thread
  case setUpd.isTrue =>
    refine ⟨rfl, rfl, rfl, rfl, rfl, rfl, rfl, rfl, rfl, ?_, fun j hj => by simp [hj], by simp [parked, hpc], by simp_all, by simp, by simp⟩
    simp only []; split <;> simp_all
  all_goals
    exact ⟨rfl, rfl, rfl, rfl, rfl, rfl, rfl, rfl, rfl, Or.inl rfl, fun j hj => by simp [hj], by simp_all [parked], by simp_all,
      by simp [hpc], by simp⟩

/-- a worker step moves the I/O thread at most from `sleepUpd` to `waitUpd` -/
theorem WFrame.iopc_eq (fr : WFrame s s' i) {pc : IoPc} (h1 : pc ≠ .sleepUpd) (h2 : pc ≠ .waitUpd) : s'.iopc = pc ↔ s.iopc = pc := by
  rcases fr.iopc with e | ⟨e, -, e'⟩
  · rw [e]
  · rw [e, e']; exact ⟨fun h => absurd h.symm h2, fun h => absurd h.symm h1⟩

structure IoFrame (s s' : St σ) : Prop where
  other : ∀ j, j ≠ s.turn → s'.buf j = s.buf j ∧ s'.wpc j = s.wpc j ∧ s'.dat j = s.dat j ∧ s'.fin j = s.fin j ∧ s'.cid j = s.cid j
  ws : s'.ws = s.ws
  log : s'.log = s.log

theorem stepIo_frame (hs : stepIo inp ispad T s = some s') : IoFrame s s' := by
  cases hpc : s.iopc <;> simp only [stepIo, hpc] at hs <;> (try split at hs) <;> cases hs
  all_goals exact ⟨fun j hj => by simp [hj], rfl, rfl⟩

theorem BufOK_stepW (hb : BufOK s i) (hs : stepW f s i = some s') : BufOK s' i := by
  simp only [BufOK, ioIn] at hb
  have hst := BSt_cases (s.buf i).st
  cases hpc : s.wpc i <;> simp only [stepW, hpc] at hs <;> (try split at hs) <;> cases hs
  all_goals (
    simp only [BufOK, ioIn, upd_same]
    grind)

theorem PInv_stepW (hi : i < T) (h : PInv T s) (hs : stepW f s i = some s') : PInv T s' := by
  have fr := stepW_frame hs
  have hdn : s'.iopc = .done ↔ s.iopc = .done := fr.iopc_eq nofun nofun
  have hsr : s'.iopc = .setRdy → s.iopc = .setRdy ∧ s'.buf s.turn = s.buf s.turn := fun e => by
    have e' := (fr.iopc_eq (pc := .setRdy) nofun nofun).1 e
    refine ⟨e', ?_⟩
    by_cases hti : s.turn = i
    · exact hti ▸ fr.parked (io_exclusive h hi ⟨hti, by simp [e']⟩).2
    · exact (fr.other _ hti).1
  refine ⟨fun hne => fr.turn ▸ h.turn_lt (mt hdn.2 hne), ?_, fun e => fr.live ▸ h.done_live (hdn.1 e), ?_, ?_, ?_⟩
  · rw [fr.live, h.live_eq]
    exact (liveCount_congr fun j _ => by by_cases hj : j = i; exact hj ▸ fr.inv; rw [(fr.other j hj).1]).symm
  · intro e; obtain ⟨e', eb⟩ := hsr e; rw [fr.turn, fr.lst, eb]; exact h.loaded e'
  · intro e; obtain ⟨e', eb⟩ := hsr e; rw [fr.turn, fr.lst, eb]; exact h.not_loaded e'
  · intro j hj
    by_cases hji : j = i
    · exact hji ▸ BufOK_stepW (h.bufOK hi) hs
    · refine BufOK_frame (h.bufOK hj) (fr.other j hji).1 (fr.other j hji).2.1 fr.turn fun htj => ?_
      rcases fr.iopc with h' | ⟨-, h', -⟩
      · exact h'
      · exact absurd (htj ▸ h') hji

/-- at `setRdy` this needs what `PInv` says about the load, at `iter` that `turn_iter` stops at a buffer that is not INV -/
theorem BufOK_stepIo (h : PInv T s) (hs : stepIo inp ispad T s = some s') : BufOK s' s.turn := by
  have ht := h.turn_lt_of_stepIo hs
  have hnt : s.live ≠ 0 → (s.buf (nextTurn T s.buf s.turn T)).st ≠ .inv :=
    fun hl => (nextTurn_spec s.turn (Nat.zero_lt_of_lt ht) (liveCount_pos_iff.1 (by have := h.live_eq; omega))).2
  have hbt := h.bufOK ht
  have hst := BSt_cases (s.buf s.turn).st
  have hld := fun hpc hl => h.loaded hpc hl
  have hnl := fun hpc hl => h.not_loaded hpc hl
  cases hpc : s.iopc <;> simp only [stepIo, hpc] at hs <;> (try split at hs) <;> cases hs
  all_goals (
    simp only [BufOK, ioIn, hpc] at hbt
    simp only [BufOK, ioIn, upd_same]
    grind [wake])

theorem PInv_stepIo (hwf : inp.WF) (h : PInv T s) (hs : stepIo inp ispad T s = some s') : PInv T s' := by
  have fr := stepIo_frame hs
  have ht : s.turn < T := h.turn_lt_of_stepIo hs
  have hrows : s'.turn = s.turn → ∀ j, j < T → BufOK s' j := fun et j hj => by
    by_cases hji : j = s.turn
    · exact hji ▸ BufOK_stepIo h hs
    · exact BufOK_frame (h.bufOK hj) (fr.other j hji).1 (fr.other j hji).2.1 et fun e => absurd e.symm hji
  have hbt := h.bufOK ht
  have hlive := h.live_eq
  have hlc : ∀ b : Buf, (b.st = .inv ↔ (s.buf s.turn).st = .inv) → s.live = liveCount T (upd s.buf s.turn b) :=
    fun b hb => by rw [liveCount_upd_same T hb]; exact hlive
  cases hpc : s.iopc <;> simp only [stepIo, hpc] at hs
  case sleepUpd | done => cases hs
  case loadDecide =>
    split at hs <;> cases hs
    · -- the input is over: no load, the buffer stays as the worker left it (`now = total`)
      exact ⟨fun _ => ht, hlive, nofun, fun _ e => absurd rfl e,
        fun _ _ => hbt.io_complete ⟨rfl, by simp [hpc]⟩ (by simp [hpc]), hrows rfl⟩
    · exact ⟨fun _ => ht, hlive, nofun, nofun, nofun, hrows rfl⟩
  case loading =>
    cases hs
    -- a load of a well-formed input has a block unless it is NODATA
    have hw := hwf s.pos
    exact ⟨fun _ => ht, hlc _ Iff.rfl, nofun, fun _ hl => by simpa using hw.1 hl,
      fun _ hl => by simpa using (hw.2 hl).symm, hrows rfl⟩
  case setRdy =>
    have hni : (s.buf s.turn).st ≠ .inv := by
      rcases (io_exclusive h ht ⟨rfl, by simp [hpc]⟩).1 with e | e <;> simp [e]
    split at hs <;> cases hs
    · -- `set_ready(true)`: READY is counted like EMPTY or UPDATING
      exact ⟨fun _ => ht, hlc _ (by simp [hni]), nofun, nofun, nofun, hrows rfl⟩
    · -- `set_ready(false)` retires the buffer: one live buffer less
      have := liveCount_upd_inv (b := ⟨.inv, (s.buf s.turn).total, (s.buf s.turn).now⟩) ht hni rfl
      exact ⟨fun _ => ht, show s.live - 1 = liveCount T (upd s.buf s.turn _) by omega, nofun, nofun, nofun, hrows rfl⟩
  case iter =>
    split at hs <;> cases hs
    · exact ⟨fun e => absurd rfl e, hlive, fun _ => ‹s.live = 0›, nofun, nofun, hrows rfl⟩
    · -- `turn_iter` moves `turn` to a buffer that is not INV; every row now meets the I/O thread at `waitUpd`
      obtain ⟨hlt, hinv⟩ := nextTurn_spec s.turn (Nat.zero_lt_of_lt ht) (liveCount_pos_iff.1 (show 0 < liveCount T s.buf by omega))
      refine ⟨fun _ => hlt, hlive, nofun, nofun, nofun, fun j hj => ?_⟩
      have hbj := h.bufOK hj
      simp only [BufOK, ioIn, hpc] at hbj ⊢
      grind
  -- the other steps touch none of `turn`, `live`, `lst`, the buffers and the workers, and do not arrive at `setRdy` or `done`
  all_goals
    (try split at hs) <;> cases hs
    all_goals exact ⟨fun _ => ht, hlive, by simp, by simp, by simp, hrows rfl⟩

theorem step_cases (hs : step f inp ispad T s tid = some s') :
    (tid = none ∧ stepIo inp ispad T s = some s') ∨ ∃ i, tid = some i ∧ i < T ∧ stepW f s i = some s' := by
  cases tid with
  | none => exact Or.inl ⟨rfl, hs⟩
  | some i =>
    simp only [step] at hs
    split at hs
    · exact Or.inr ⟨i, rfl, ‹_›, hs⟩
    · cases hs

theorem PInv_step (hwf : inp.WF) (h : PInv T s) (hs : step f inp ispad T s tid = some s') : PInv T s' := by
  rcases step_cases hs with ⟨-, hs⟩ | ⟨i, -, hi, hs⟩
  · exact PInv_stepIo hwf h hs
  · exact PInv_stepW hi h hs

theorem spurious_cases (hs : spurious T s tid = some s') :
    (tid = none ∧ s.iopc = .sleepUpd ∧ s' = { s with iopc := .waitUpd }) ∨
    (∃ i, tid = some i ∧ i < T ∧ (s.wpc i = .sleepRdy ∨ s.wpc i = .initSleep) ∧
       s' = { s with wpc := upd s.wpc i (wake (s.wpc i)) }) := by
  cases tid with
  | none =>
    simp only [spurious] at hs
    split at hs <;> cases hs
    exact Or.inl ⟨rfl, ‹_›, rfl⟩
  | some i =>
    simp only [spurious] at hs
    split at hs
    · split at hs <;> cases hs
      · exact Or.inr ⟨i, rfl, ‹_›, Or.inl ‹_›, by simp [*, wake]⟩
      · exact Or.inr ⟨i, rfl, ‹_›, Or.inr ‹_›, by simp [*, wake]⟩
    · cases hs

theorem PInv_spur (h : PInv T s) (hs : spurious T s tid = some s') : PInv T s' := by
  rcases spurious_cases hs with ⟨-, hpc, rfl⟩ | ⟨i, -, hi, hw, rfl⟩
  · refine ⟨fun _ => h.turn_lt (by simp [hpc]), h.live_eq, by simp, by simp, by simp, fun j hj => ?_⟩
    have hb := h.bufOK hj
    simp only [BufOK, ioIn, hpc] at hb ⊢
    grind
  · refine ⟨h.turn_lt, h.live_eq, h.done_live, h.loaded, h.not_loaded, fun j hj => ?_⟩
    by_cases hji : j = i
    · subst hji
      have hb := h.bufOK hj
      simp only [BufOK, ioIn, upd_same] at hb ⊢
      rcases hw with hw | hw <;> simp only [hw, wake] at hb ⊢ <;> grind
    · exact BufOK_frame (h.bufOK hj) rfl (by simp [hji]) rfl fun _ => rfl

theorem viol_step (hp : PInv T s) (hv : s.viol = false) (hs : step f inp ispad T s tid = some s') : s'.viol = false := by
  rcases step_cases hs with ⟨-, hs⟩ | ⟨i, -, hi, hs⟩
  · have key : ioIn s s.turn → wTouches s s.turn = False := fun hio => by
      have ht : s.turn < T := hp.turn_lt (by rcases hio.2 with h | h | h | h | h <;> simp [h])
      simp [wTouches, (io_exclusive hp ht hio).2.not_process.1]
    cases hpc : s.iopc <;> simp only [stepIo, hpc] at hs
    case exporting | loading => cases hs; have := key ⟨rfl, by simp [hpc]⟩; simp [hv, this]
    all_goals (try split at hs) <;> cases hs <;> exact hv
  · cases hpc : s.wpc i <;> simp only [stepW, hpc] at hs
    case process => cases hs; obtain ⟨h1, h2⟩ := ownership T s hp i hi (Or.inl hpc); simp [hv, h1, h2]
    all_goals (try split at hs) <;> cases hs <;> exact hv

theorem deadlock_free (f : σ → Block → σ × Block) (inp : Input) (ispad : Bool) (h : PInv T s) :
    allDone T s ∨ ∃ tid, (step f inp ispad T s tid).isSome := by
  have hrun : ∀ i, i < T → s.wpc i ≠ .initSleep → s.wpc i ≠ .sleepRdy → s.wpc i ≠ .done → ∃ tid, (step f inp ispad T s tid).isSome :=
    fun i hi h1 h2 h3 => ⟨some i, by rw [step_some hi]; exact stepW_isSome_iff.2 ⟨h1, h2, h3⟩⟩
  by_cases hsl : s.iopc = .sleepUpd
  · -- the I/O thread is asleep on `turn`: that buffer is READY, so its worker is neither asleep nor returned
    have ht : s.turn < T := h.turn_lt (by simp [hsl])
    obtain ⟨h1, h2, h3⟩ := (h.bufOK ht).ready_runs ((h.bufOK ht).sleepUpd_ready hsl)
    exact Or.inr (hrun s.turn ht h1 h2 h3)
  by_cases hdn : s.iopc = .done
  · -- it has returned: every buffer is INV, so no worker sleeps: all have returned or one of them can move
    by_cases hd : ∀ i, i < T → s.wpc i = .done
    · exact Or.inl ⟨hdn, hd⟩
    · obtain ⟨i, hi⟩ := Classical.not_forall.mp hd
      obtain ⟨hiT, hnd⟩ := Classical.not_imp.mp hi
      obtain ⟨h1, h2⟩ := (h.bufOK hiT).inv_awake (h.done_inv hdn i hiT)
      exact Or.inr (hrun i hiT h1 h2 hnd)
  · exact Or.inr ⟨none, stepIo_isSome_iff.2 ⟨hsl, hdn⟩⟩
end

end Wencry.Proofs.PipeCtl
