/-
C13: encryption appends from offset 0 (header with a zero-filled tag field, IVs, body) and then writes the tag ONCE, at offset 10,
over the complete body. So every crash state (any prefix of the writes, the last cut at any byte: this covers every re-chunking of
the appends by stdio) other than the complete file is rejected, unless the MAC of the partial content is the all-zero string (a
named event; no theorem can exclude a specific MAC value).
-/
import Wencry.Proofs.EncryptData
namespace Wencry.Proofs.Crash
open Wencry Wencry.Model Wencry.Model.File Wencry.Model.Stdio Wencry.Model.IoBuffer Wencry.Proofs.FileLogic
open Wencry.Proofs.Stdio Wencry.Proofs.Blocks Wencry.Proofs.Chunks Wencry.Proofs.SeqLoop

/-- all crash states of a write log: k complete writes followed by the first j bytes of write k (j = 0 … length-1), and the final state -/
def crashStates (log : List (Nat × Bytes)) : List Bytes :=
  (List.range (log.length + 1)).flatMap fun k =>
    match log[k]? with
    | none => [replay (log.take k)]
    | some (off, w) => (List.range w.length).map fun j => replay (log.take k ++ [(off, w.take j)])

def Sequential : Nat → List (Nat × Bytes) → Prop
  | _, [] => True
  | off, (o, w) :: r => o = off ∧ Sequential (off + w.length) r

def logBytes (l : List (Nat × Bytes)) : Bytes := (l.map (·.2)).flatten

theorem logBytes_cons (a : Nat × Bytes) (l : List (Nat × Bytes)) : logBytes (a :: l) = a.2 ++ logBytes l := rfl

theorem logBytes_append (l1 l2 : List (Nat × Bytes)) : logBytes (l1 ++ l2) = logBytes l1 ++ logBytes l2 := by
  simp [logBytes]

theorem foldl_seq : ∀ (l : List (Nat × Bytes)) (d : Bytes), Sequential d.length l →
    l.foldl (fun d w => writeAt d w.1 w.2) d = d ++ logBytes l := by
  intro l
  induction l with
  | nil => intro d _; simp [logBytes]
  | cons a l ih =>
    intro d h
    obtain ⟨o, w⟩ := a
    obtain ⟨rfl, h2⟩ := h
    rw [List.foldl_cons]
    simp only
    rw [writeAt_end, ih _ (by rw [List.length_append]; exact h2), logBytes_cons, List.append_assoc]

theorem replay_seq (l : List (Nat × Bytes)) (h : Sequential 0 l) : replay l = logBytes l := by
  have := foldl_seq l [] h
  simpa [replay] using this

theorem sequential_append : ∀ (l1 l2 : List (Nat × Bytes)) (off : Nat),
    Sequential off (l1 ++ l2) ↔ Sequential off l1 ∧ Sequential (off + (logBytes l1).length) l2 := by
  intro l1
  induction l1 with
  | nil => intro l2 off; simp [logBytes, Sequential]
  | cons a l ih =>
    intro l2 off
    obtain ⟨o, w⟩ := a
    simp only [List.cons_append, Sequential, ih, logBytes_cons, List.length_append, Nat.add_assoc, and_assoc]

def AppendOnly (w : WFile) : Prop := Sequential 0 w.log ∧ w.pos = w.data.length ∧ w.data = replay w.log

theorem replay_fwrite (w : WFile) (bs : Bytes) (h : w.data = replay w.log) : (w.fwrite bs).data = replay (w.fwrite bs).log := by
  by_cases hb : bs = []
  · rw [hb, fwrite_nil]; exact h
  · rw [fwrite_ne_nil w hb, replay_append_one, h]

theorem appendOnly_fwrite (w : WFile) (bs : Bytes) (h : AppendOnly w) : AppendOnly (w.fwrite bs) := by
  obtain ⟨h1, h2, h3⟩ := h
  refine ⟨?_, (fwrite_end w bs h2).2, replay_fwrite w bs h3⟩
  by_cases hb : bs = []
  · rw [hb, fwrite_nil]; exact h1
  · rw [fwrite_ne_nil w hb, sequential_append, h2, h3, replay_seq _ h1, Nat.zero_add]
    exact ⟨h1, rfl, trivial⟩

theorem appendOnly_pre (T B : Nat) (ss : List Modes.Stream) (fin : RFile) (c h : Byte) (iv : Bytes) :
    AppendOnly (seqPipeline T B true ss fin (writeHeader WFile.empty c h T iv)).2.2 := by
  rw [seqPipeline_eq, EncryptData.writeHeader_eq]
  exact foldl_fwrite_ind AppendOnly appendOnly_fwrite _ _ (foldl_fwrite_ind AppendOnly appendOnly_fwrite _ _ ⟨trivial, rfl, rfl⟩)

theorem encrypt_data_eq_replay (cfg : Cfg) (ctype htype : Nat) (key : Block) (seed plain : Bytes) (f : WFile)
    (he : encrypt cfg ctype htype key seed plain = .ok f) : f.data = replay f.log := by
  rw [EncryptData.encrypt_eq] at he
  cases hp : prepareAES cfg.T ctype key (getIV cfg.T seed) true with
  | error e => rw [hp] at he; cases he
  | ok ss =>
    rw [hp] at he
    simp only [Except.bind, writeFileHmac] at he
    split at he
    · cases he
    · cases he
      exact replay_fwrite _ _ (appendOnly_pre cfg.T cfg.B ss _ _ _ _).2.2

theorem encrypt_log_shape (cfg : Cfg) (hT : 1 ≤ cfg.T) (hB : 1 ≤ cfg.B) (hH : 1 ≤ cfg.H) (ctype htype : Nat) (hc : ctype ≤ 4) (hh : htype ≤ 2)
    (key : Block) (seed plain : Bytes) (f : WFile) (he : encrypt cfg ctype htype key seed plain = .ok f) :
    ∃ app tag, f.log = app ++ [(10, tag)] ∧ Sequential 0 app ∧
      ((replay app).drop 10).take 38 = List.replicate 38 0 ∧
      74 ≤ (replay app).length ∧
      tagOf cfg.H htype key ((replay app).drop 48) = some tag ∧
      (replay app).getD 9 0 = BitVec.ofNat 8 htype := by
  obtain ⟨ss, out, tag, -, hss, hout, hdata, -, rfl, henc⟩ := EncryptData.encrypt_pre cfg hT hB hH ctype htype hc hh key seed plain
  obtain ⟨hseq, -, hgood⟩ : AppendOnly out := hout ▸ appendOnly_pre cfg.T cfg.B ss _ _ _ _
  obtain rfl := Except.ok.inj (he.symm.trans henc)
  have hlen : 74 ≤ out.data.length := by
    rw [hdata]
    simp only [List.length_append, List.length_replicate, EncryptData.getIV_length cfg.T hT seed, joinBlocks_length,
      blkLoop_length hT hB _ _ hss, splitBlocks_fst_length, pkcs7_length]
    omega
  obtain ⟨-, h9, hz, -⟩ := EncryptData.header_fields hdata rfl (by simp)
  exact ⟨out.log, _, rfl, hseq, by rw [← hgood]; exact ⟨hz, hlen, tagOf_eq cfg.H hH htype hh key _, h9⟩⟩

theorem replay_cut (pre post : List (Nat × Bytes)) (off : Nat) (w : Bytes) (j : Nat) (h : Sequential 0 (pre ++ (off, w) :: post)) :
    replay (pre ++ (off, w) :: post) = replay (pre ++ [(off, w.take j)]) ++ (w.drop j ++ logBytes post) := by
  obtain ⟨q1, q3, _⟩ := (sequential_append _ _ 0).1 h
  have q4 : Sequential 0 (pre ++ [(off, w.take j)]) := (sequential_append _ _ 0).2 ⟨q1, q3, trivial⟩
  rw [replay_seq _ q4, replay_seq _ h, logBytes_append, logBytes_append, logBytes_cons, logBytes_cons]
  simp only [logBytes, List.map_nil, List.flatten_nil, List.append_nil, List.append_assoc]
  rw [← List.append_assoc (w.take j), List.take_append_drop]

theorem crash_cases (app : List (Nat × Bytes)) (tag S : Bytes) (hseq : Sequential 0 app)
    (hS : S ∈ crashStates (app ++ [(10, tag)])) :
    (∃ r, replay app = S ++ r) ∨ (∃ j, j < tag.length ∧ S = writeAt (replay app) 10 (tag.take j)) ∨
      S = replay (app ++ [(10, tag)]) := by
  unfold crashStates at hS
  rw [List.mem_flatMap] at hS
  obtain ⟨k, -, hm⟩ := hS
  rcases Nat.lt_trichotomy k app.length with hka | rfl | hgt
  · -- a write of `app` is cut: what is there is a prefix of `replay app`
    left
    rw [List.getElem?_append_left hka, List.getElem?_eq_getElem hka, List.take_append_of_le_length (Nat.le_of_lt hka)] at hm
    simp only [List.mem_map, List.mem_range] at hm
    obtain ⟨j, -, rfl⟩ := hm
    have hsplit : app = app.take k ++ app[k] :: app.drop (k + 1) := by
      rw [← List.drop_eq_getElem_cons hka, List.take_append_drop]
    refine ⟨app[k].2.drop j ++ logBytes (app.drop (k + 1)), ?_⟩
    conv => lhs; rw [hsplit]
    exact replay_cut _ _ _ _ j (hsplit ▸ hseq)
  · -- the tag write is cut
    right; left
    rw [List.getElem?_append_right (Nat.le_refl _), Nat.sub_self, List.getElem?_cons_zero, List.take_left' rfl] at hm
    simp only [List.mem_map, List.mem_range] at hm
    obtain ⟨j, hj, rfl⟩ := hm
    exact ⟨j, hj, replay_append_one _ _ _⟩
  · -- nothing is cut
    right; right
    have hl : (app ++ [(10, tag)]).length ≤ k := by rw [List.length_append, List.length_singleton]; omega
    rw [List.getElem?_eq_none hl, List.take_of_length_le hl] at hm
    exact List.mem_singleton.1 hm

/-- any writer that first appends a file with a zero tag field and then writes, at offset 10, the tag of the bytes from offset 48
    on: a crash state that is accepted and is not the complete file has a zero tag field and an all-zero MAC -/
theorem torn_write_rejected {cfg : Cfg} (hH : 1 ≤ cfg.H) {key : Block} {htype : Nat} (hh : htype ≤ 2)
    {app : List (Nat × Bytes)} {tag : Bytes} (hseq : Sequential 0 app)
    (hz : ((replay app).drop 10).take 38 = List.replicate 38 0) (hlen : 74 ≤ (replay app).length)
    (htag : tagOf cfg.H htype key ((replay app).drop 48) = some tag) (h9 : (replay app).getD 9 0 = BitVec.ofNat 8 htype)
    {S : Bytes} (hS : S ∈ crashStates (app ++ [(10, tag)])) (hne : S ≠ replay (app ++ [(10, tag)])) (hacc : Accepted cfg key S) :
    (S.drop 10).take 38 = List.replicate 38 0 ∧
    ∃ t, tagOf cfg.H (S.getD 9 0).toNat key (S.drop 48) = some t ∧ t = List.replicate t.length 0 := by
  have hSlen := hacc.length
  have hh' := hacc.htype
  obtain ⟨t, ht, hcmp⟩ := hacc.tag
  rcases crash_cases app tag S hseq hS with ⟨r, hr⟩ | ⟨j, hj, hSj⟩ | hfin
  · have hfield : (S.drop 10).take 38 = List.replicate 38 0 := by
      rw [← hz, hr, List.drop_append_of_le_length (by omega), List.take_append_of_le_length (by rw [List.length_drop]; omega)]
    refine ⟨hfield, t, ht, ?_⟩
    have htl := tagOf_length_bounds hH hh' ht
    have : (S.drop 10).take t.length = ((S.drop 10).take 38).take t.length := by
      rw [List.take_take, Nat.min_eq_left (by omega)]
    rw [this, hfield, List.take_replicate, Nat.min_eq_left (by omega)] at hcmp
    exact hcmp.symm
  · -- the tag partly written: the bytes the MAC covers and the hash-mode byte are those of the complete file, so the stored
    -- tag would have to be the complete one
    exfalso
    have htl := tagOf_length_bounds hH hh htag
    have hjl : (tag.take j).length = j := by rw [List.length_take]; omega
    have h10 : 10 ≤ (replay app).length := by omega
    have e48 : S.drop 48 = (replay app).drop 48 := by
      rw [hSj]; exact writeAt_drop _ 10 _ 48 h10 (by omega)
    have e9 : S.getD 9 0 = BitVec.ofNat 8 htype := by
      rw [hSj, writeAt_getD _ 10 _ 9 h10 (by omega), h9]
    have e9' : (S.getD 9 0).toNat = htype := by
      rw [e9, BitVec.toNat_ofNat]; omega
    rw [e9', e48, htag] at ht
    cases ht
    rw [replay_append_one] at hne
    exact hne (eq_writeAt _ tag S 10 h10 (hSj ▸ writeAt_take _ 10 _ h10) hcmp (hSj ▸ writeAt_drop _ 10 _ _ h10 (by omega)))
  · exact absurd hfin hne

theorem interrupted (cfg : Cfg) (hT : 1 ≤ cfg.T) (hB : 1 ≤ cfg.B) (hH : 1 ≤ cfg.H) (ctype htype : Nat) (hc : ctype ≤ 4) (hh : htype ≤ 2)
    (key : Block) (seed plain : Bytes) (f : WFile) (he : encrypt cfg ctype htype key seed plain = .ok f)
    (S : Bytes) (hS : S ∈ crashStates f.log) (hne : S ≠ f.data) (hacc : Accepted cfg key S) :
    (S.drop 10).take 38 = List.replicate 38 0 ∧
    ∃ t, tagOf cfg.H (S.getD 9 0).toNat key (S.drop 48) = some t ∧ t = List.replicate t.length 0 := by
  obtain ⟨app, tag, hlog, hseq, hz, hlen, htag, h9⟩ := encrypt_log_shape cfg hT hB hH ctype htype hc hh key seed plain f he
  rw [encrypt_data_eq_replay cfg ctype htype key seed plain f he, hlog] at hne
  exact torn_write_rejected hH hh hseq hz hlen htag h9 (hlog ▸ hS) hne hacc

/-- so that the statement above is not vacuous -/
theorem final_is_crash_state (log : List (Nat × Bytes)) : replay log ∈ crashStates log := by
  unfold crashStates
  rw [List.mem_flatMap]
  refine ⟨log.length, by simp, ?_⟩
  simp

end Wencry.Proofs.Crash

section AxiomCheck
open Wencry.Proofs.Crash
#print axioms encrypt_data_eq_replay
#print axioms encrypt_log_shape
#print axioms interrupted
#print axioms final_is_crash_state
end AxiomCheck
