/-
C16: the model of base64.cpp is RFC 4648; decoding inverts encoding; the key validator accepts exactly the strings of 22 alphabet
characters followed by "==", and these decode to exactly 16 bytes inside the key buffer.
Both loops OR shifted fields into a 32-bit accumulator; by `toNat_or_shl` (Basic) each OR is an addition, so a group is a number
(`val4`, `bytes3`) and the rest is arithmetic of base-64 and base-256 digits.
-/
import Wencry.Model.Base64
import Wencry.Spec.Base64
-- C06's statements and the theorems of TypedKey.lean are stated with `TypedKey.sextet`; the decoder lemmas of this file need it
namespace Wencry.Proofs.TypedKey
open Wencry Wencry.Gen

/-- the sextet the decoder reads for a character -/
def sextet (c : Byte) : Byte := hexT (c.truncate 7)

end Wencry.Proofs.TypedKey

namespace Wencry.Proofs.Base64
open Wencry Wencry.Model.Base64 Wencry.Proofs.TypedKey

theorem b64T_eq_spec : ∀ i : BitVec 6, Gen.b64T i = Spec.Base64.sym i.toNat := by decide +kernel

theorem hexT_b64T : ∀ i : BitVec 6, Gen.hexT ((Gen.b64T i).truncate 7) = i.zeroExtend 8 ∧ (Gen.b64T i).toNat < 128 := by decide +kernel

theorem isBase64_b64T : ∀ i : BitVec 6, isBase64 (Gen.b64T i) = true := by decide +kernel

theorem isBase64_iff : ∀ c : Byte, isBase64 c = Spec.Base64.isAlphabet c := by decide +kernel

theorem hexT_255_iff : ∀ c : BitVec 7, Gen.hexT c = 255 ↔ Spec.Base64.isAlphabet (c.zeroExtend 8) = false := by
  intro c
  rw [← isBase64_iff]
  revert c
  decide +kernel

/-- the three guards of the model's `decLoop` before it reads `hex_tab` -/
theorem isBase64_ascii (c : Byte) (h : isBase64 c = true) : c ≠ eqChar ∧ c ≠ 255 ∧ ¬ c.toNat ≥ 128 := by
  simp only [isBase64, isalnum, Bool.or_eq_true, decide_eq_true_eq, ← BitVec.toNat_inj, BitVec.reduceToNat] at h
  simp only [ne_eq, eqChar, ← BitVec.toNat_inj, BitVec.reduceToNat]
  omega

theorem spec_sym_mod (v : Nat) : Spec.Base64.sym (v % 64) = Spec.Base64.sym v := by
  simp [Spec.Base64.sym]

theorem spec_sym_eq_b64T (v : Nat) : Spec.Base64.sym v = Gen.b64T (BitVec.ofNat 6 v) := by
  rw [b64T_eq_spec, BitVec.toNat_ofNat]; exact (spec_sym_mod v).symm

theorem isBase64_sym (v : Nat) : isBase64 (Spec.Base64.sym v) = true := by
  rw [spec_sym_eq_b64T, isBase64_b64T]

theorem isAlphabet_sym (v : Nat) : Spec.Base64.isAlphabet (Spec.Base64.sym v) = true := by
  rw [← isBase64_iff, isBase64_sym]

theorem padChar_eq : Spec.Base64.padChar = eqChar := by decide

theorem sextet_b64T (i : BitVec 6) : sextet (Gen.b64T i) = i.zeroExtend 8 := (hexT_b64T i).1

theorem b64T_sextet : ∀ c : Byte, isBase64 c = true → Gen.b64T ((sextet c).truncate 6) = c := by decide +kernel

theorem sextet_lt_64 (c : Byte) (h : isBase64 c = true) : (sextet c).toNat < 64 := by
  have e := sextet_b64T ((sextet c).truncate 6)
  rw [b64T_sextet c h] at e
  rw [e, BitVec.toNat_setWidth]; omega

theorem sextet_injective_on_alphabet (c c' : Byte) (h : isBase64 c = true) (h' : isBase64 c' = true) (he : sextet c = sextet c') : c = c' := by
  rw [← b64T_sextet c h, ← b64T_sextet c' h', he]

theorem sextet_sym (v : Nat) : (sextet (Spec.Base64.sym v)).toNat = v % 64 := by
  rw [spec_sym_eq_b64T, sextet_b64T, BitVec.toNat_setWidth, BitVec.toNat_ofNat]; omega

def val4 (w x y z : Nat) : Nat := w * 262144 + x * 4096 + y * 64 + z

def bytes3 (n : Nat) : Bytes := [BitVec.ofNat 8 (n / 65536), BitVec.ofNat 8 (n / 256), BitVec.ofNat 8 n]

@[simp] theorem bytes3_length (n : Nat) : (bytes3 n).length = 3 := rfl

theorem bytes3_toNat (h : W32) : bytes3 h.toNat = [(h >>> 16).truncate 8, (h >>> 8).truncate 8, h.truncate 8] := by
  rw [shr_truncate8, shr_truncate8, ← BitVec.ushiftRight_zero (x := h), shr_truncate8]
  simp [bytes3]

theorem bytes3_pack (a b c : Byte) : bytes3 (a.toNat * 65536 + b.toNat * 256 + c.toNat) = [a, b, c] := by
  have := a.isLt; have := b.isLt; have := c.isLt
  rw [bytes3, ofNat8_eq _ a (by omega), ofNat8_eq _ b (by omega), ofNat8_eq _ c (by omega)]

theorem bytes3_inj (n n' : Nat) (hn : n < 2 ^ 24) (hn' : n' < 2 ^ 24) (h : bytes3 n = bytes3 n') : n = n' := by
  simp only [bytes3, List.cons.injEq, and_true] at h
  obtain ⟨h1, h2, h3⟩ := h
  have h1 := congrArg BitVec.toNat h1; have h2 := congrArg BitVec.toNat h2; have h3 := congrArg BitVec.toNat h3
  simp only [BitVec.toNat_ofNat] at h1 h2 h3
  omega

theorem val4_lt (w x y z : Nat) (hw : w < 64) (hx : x < 64) (hy : y < 64) (hz : z < 64) : val4 w x y z < 2 ^ 24 := by
  unfold val4; omega

theorem val4_inj (w x y z w' x' y' z' : Nat) (hx : x < 64) (hy : y < 64) (hz : z < 64)
    (hx' : x' < 64) (hy' : y' < 64) (hz' : z' < 64) (h : val4 w x y z = val4 w' x' y' z') :
    w = w' ∧ x = x' ∧ y = y' ∧ z = z' := by
  unfold val4 at h; omega

theorem val4_of_digits (n w x y z : Nat) (hn : n < 2 ^ 24) (hw : n / 262144 % 64 = w) (hx : n / 4096 % 64 = x)
    (hy : n / 64 % 64 = y) (hz : n % 64 = z) : val4 w x y z = n := by
  subst hw hx hy hz; unfold val4; omega

-- the decoder's accumulator after two, three and four characters of a group
def grp2 (a b : Byte) : W32 := ((0 : W32) ||| ((sextet a).zeroExtend 32 <<< 18)) ||| ((sextet b).zeroExtend 32 <<< 12)
def grp3 (a b c : Byte) : W32 := grp2 a b ||| ((sextet c).zeroExtend 32 <<< 6)
def grp (a b c d : Byte) : W32 := grp3 a b c ||| ((sextet d).zeroExtend 32 <<< 0)

theorem grp2_toNat (a b : Byte) (ha : isBase64 a = true) (hb : isBase64 b = true) :
    (grp2 a b).toNat = val4 (sextet a).toNat (sextet b).toNat 0 0 := by
  have e := toNat_or_shl 0 (sextet a) 18 6 (sextet_lt_64 a ha) (by omega) (by simp)
  rw [grp2, toNat_or_shl _ (sextet b) 12 6 (sextet_lt_64 b hb) (by omega) (by rw [e]; simp; omega), e, val4]
  simp

theorem grp3_toNat (a b c : Byte) (ha : isBase64 a = true) (hb : isBase64 b = true) (hc : isBase64 c = true) :
    (grp3 a b c).toNat = val4 (sextet a).toNat (sextet b).toNat (sextet c).toNat 0 := by
  have e := grp2_toNat a b ha hb
  rw [grp3, toNat_or_shl _ (sextet c) 6 6 (sextet_lt_64 c hc) (by omega) (by rw [e, val4]; omega), e, val4, val4]
  omega

theorem grp_toNat (a b c d : Byte) (ha : isBase64 a = true) (hb : isBase64 b = true) (hc : isBase64 c = true) (hd : isBase64 d = true) :
    (grp a b c d).toNat = val4 (sextet a).toNat (sextet b).toNat (sextet c).toNat (sextet d).toNat := by
  have e := grp3_toNat a b c ha hb hc
  rw [grp, toNat_or_shl _ (sextet d) 0 6 (sextet_lt_64 d hd) (by omega) (by rw [e, val4]; omega), e, val4, val4]
  omega

theorem sym_toNat (h : W32) (j : Nat) : sym h j = Spec.Base64.sym (h.toNat / 2^(6*(3-j))) := by
  unfold sym
  rw [b64T_eq_spec, ← spec_sym_mod (h.toNat / _)]
  congr 1
  simp [Nat.shiftRight_eq_div_pow, show ∀ x : Nat, x &&& 63 = x % 64 from fun x => Nat.and_two_pow_sub_one_eq_mod x 6]

theorem encAcc3_toNat (a b c : Byte) :
    ((((0 : W32) ||| (a.zeroExtend 32 <<< 16)) ||| (b.zeroExtend 32 <<< 8)) ||| (c.zeroExtend 32 <<< 0)).toNat
      = a.toNat * 65536 + b.toNat * 256 + c.toNat := by
  have e1 := toNat_or_shl 0 a 16 8 a.isLt (by omega) (by simp)
  have e2 := toNat_or_shl _ b 8 8 b.isLt (by omega) (by rw [e1]; simp; omega)
  rw [toNat_or_shl _ c 0 8 c.isLt (by omega) (by rw [e2, e1]; simp; omega), e2, e1]; simp

theorem encAcc2_toNat (a b : Byte) :
    (((0 : W32) ||| (a.zeroExtend 32 <<< 16)) ||| (b.zeroExtend 32 <<< 8)).toNat = a.toNat * 65536 + b.toNat * 256 := by
  have := encAcc3_toNat a b 0; simpa using this

theorem encAcc1_toNat (a : Byte) : ((0 : W32) ||| (a.zeroExtend 32 <<< 16)).toNat = a.toNat * 65536 := by
  have := encAcc3_toNat a 0 0; simpa using this

/-- what `hexToBase64` does with the result of its loop -/
def encFin (r : Bytes × W32 × Nat) : Bytes :=
  (if r.2.2 = 1 then r.1 ++ [sym r.2.1 0, sym r.2.1 1, eqChar, eqChar]
   else if r.2.2 = 2 then r.1 ++ [sym r.2.1 0, sym r.2.1 1, sym r.2.1 2, eqChar]
   else r.1) ++ [0]

theorem encLoop_three (a b c : Byte) (r out : Bytes) :
    encLoop (a :: b :: c :: r) 0 0 out =
      encLoop r 0 0 (out ++ [Spec.Base64.sym ((a.toNat * 65536 + b.toNat * 256 + c.toNat) / 262144),
        Spec.Base64.sym ((a.toNat * 65536 + b.toNat * 256 + c.toNat) / 4096),
        Spec.Base64.sym ((a.toNat * 65536 + b.toNat * 256 + c.toNat) / 64),
        Spec.Base64.sym (a.toNat * 65536 + b.toNat * 256 + c.toNat)]) := by
  simp only [encLoop]
  simp only [Nat.reduceAdd, Nat.reduceMod, Nat.reduceSub, Nat.reduceMul, Nat.reduceEqDiff, ↓reduceIte]
  rw [sym_toNat, sym_toNat, sym_toNat, sym_toNat, encAcc3_toNat]
  simp

theorem encFin_aux (bs out : Bytes) : encFin (encLoop bs 0 0 out) = out ++ Spec.Base64.encode bs ++ [0] := by
  induction bs using Spec.Base64.encode.induct generalizing out with
  | case1 a b c r ih =>
    rw [encLoop_three, ih]; simp [Spec.Base64.encode]
  | case2 a b =>
    simp only [encLoop, encFin]
    simp only [Nat.reduceAdd, Nat.reduceMod, Nat.reduceSub, Nat.reduceMul, Nat.reduceEqDiff, ↓reduceIte]
    rw [sym_toNat, sym_toNat, sym_toNat, encAcc2_toNat]
    simp [Spec.Base64.encode, padChar_eq]
  | case3 a =>
    simp only [encLoop, encFin]
    simp only [Nat.reduceAdd, Nat.reduceMod, Nat.reduceSub, Nat.reduceMul, Nat.reduceEqDiff, ↓reduceIte]
    rw [sym_toNat, sym_toNat, encAcc1_toNat]
    simp [Spec.Base64.encode, padChar_eq]
  | case4 => simp [encLoop, encFin, Spec.Base64.encode]

theorem hexToBase64_eq (bs : Bytes) : hexToBase64 bs = Spec.Base64.encode bs ++ [0] := by
  show encFin (encLoop bs 0 0 []) = _
  rw [encFin_aux]; simp

/-- what `base64ToHex` does with the result of its loop -/
def decFin (r : Except Fault (Option (Bytes × W32 × Nat))) : Except Fault (Option Bytes) := do
  match ← r with
  | none => pure none
  | some (out, h, tail) =>
    if tail = 2 then pure (some (out ++ [(h >>> 16).truncate 8]))
    else if tail = 1 then pure (some (out ++ [(h >>> 16).truncate 8, (h >>> 8).truncate 8]))
    else pure (some out)

theorem base64ToHex_decFin (inp : Bytes) : base64ToHex inp = decFin (decLoop inp 0 0 0 []) := rfl

theorem decFin_ok0 (out : Bytes) (h : W32) : decFin (.ok (some (out, h, 0))) = .ok (some out) := rfl
theorem decFin_ok1 (out : Bytes) (h : W32) :
    decFin (.ok (some (out, h, 1))) = .ok (some (out ++ [(h >>> 16).truncate 8, (h >>> 8).truncate 8])) := rfl
theorem decFin_ok2 (out : Bytes) (h : W32) :
    decFin (.ok (some (out, h, 2))) = .ok (some (out ++ [(h >>> 16).truncate 8])) := rfl

theorem decLoop_nil (h : W32) (j tail : Nat) (out : Bytes) :
    decLoop [] h j tail out = .ok (some (out, h, tail)) := rfl

theorem decLoop_pad (cs : Bytes) (h : W32) (j tail : Nat) (out : Bytes) :
    decLoop (eqChar :: cs) h j tail out = decLoop cs h j (tail + 1) out := by
  simp [decLoop]

theorem decLoop_char (j : Nat) (hj : j < 3) (c : Byte) (hc : isBase64 c = true) (cs : Bytes) (h : W32) (tail : Nat) (out : Bytes) :
    decLoop (c :: cs) h j tail out = decLoop cs (h ||| ((sextet c).zeroExtend 32 <<< (6 * (3 - j)))) (j + 1) tail out := by
  obtain ⟨h1, h2, h3⟩ := isBase64_ascii c hc
  rw [decLoop, if_neg h1, if_neg h2, if_neg h3]
  simp only []
  rw [if_neg (by omega), Nat.mod_eq_of_lt (by omega)]
  rfl

theorem decLoop_char3 (c : Byte) (hc : isBase64 c = true) (cs : Bytes) (h : W32) (tail : Nat) (out : Bytes) :
    decLoop (c :: cs) h 3 tail out = decLoop cs 0 0 tail (out ++ bytes3 (h ||| ((sextet c).zeroExtend 32 <<< 0)).toNat) := by
  obtain ⟨h1, h2, h3⟩ := isBase64_ascii c hc
  rw [decLoop, if_neg h1, if_neg h2, if_neg h3, bytes3_toNat]
  rfl

theorem decLoop_grp (a b c d : Byte) (ha : isBase64 a = true) (hb : isBase64 b = true) (hc : isBase64 c = true) (hd : isBase64 d = true)
    (cs : Bytes) (tail : Nat) (out : Bytes) :
    decLoop (a :: b :: c :: d :: cs) 0 0 tail out =
      decLoop cs 0 0 tail (out ++ bytes3 (val4 (sextet a).toNat (sextet b).toNat (sextet c).toNat (sextet d).toNat)) := by
  rw [decLoop_char 0 (by omega) a ha, decLoop_char 1 (by omega) b hb, decLoop_char 2 (by omega) c hc, decLoop_char3 d hd,
    ← grp_toNat a b c d ha hb hc hd]
  rfl

theorem decFin_grp3 (a b c : Byte) (ha : isBase64 a = true) (hb : isBase64 b = true) (hc : isBase64 c = true) (out : Bytes) :
    decFin (decLoop [a, b, c, eqChar] 0 0 0 out) =
      .ok (some (out ++ [BitVec.ofNat 8 (val4 (sextet a).toNat (sextet b).toNat (sextet c).toNat 0 / 65536),
        BitVec.ofNat 8 (val4 (sextet a).toNat (sextet b).toNat (sextet c).toNat 0 / 256)])) := by
  rw [decLoop_char 0 (by omega) a ha, decLoop_char 1 (by omega) b hb, decLoop_char 2 (by omega) c hc, decLoop_pad, decLoop_nil,
    decFin_ok1, shr_truncate8, shr_truncate8, ← grp3_toNat a b c ha hb hc]
  rfl

theorem decFin_grp2 (a b : Byte) (ha : isBase64 a = true) (hb : isBase64 b = true) (out : Bytes) :
    decFin (decLoop [a, b, eqChar, eqChar] 0 0 0 out) =
      .ok (some (out ++ [BitVec.ofNat 8 (val4 (sextet a).toNat (sextet b).toNat 0 0 / 65536)])) := by
  rw [decLoop_char 0 (by omega) a ha, decLoop_char 1 (by omega) b hb, decLoop_pad, decLoop_pad, decLoop_nil,
    decFin_ok2, shr_truncate8, ← grp2_toNat a b ha hb]
  rfl

theorem decFin_aux (bs out : Bytes) :
    decFin (decLoop (Spec.Base64.encode bs) 0 0 0 out) = .ok (some (out ++ bs)) := by
  induction bs using Spec.Base64.encode.induct generalizing out with
  | case1 a b c r ih =>
    have := a.isLt; have := b.isLt; have := c.isLt
    simp only [Spec.Base64.encode]
    -- the four `rfl` give `val4_of_digits` the digits, from which unification reads off the 24-bit value
    rw [decLoop_grp _ _ _ _ (isBase64_sym _) (isBase64_sym _) (isBase64_sym _) (isBase64_sym _),
      sextet_sym, sextet_sym, sextet_sym, sextet_sym, val4_of_digits _ _ _ _ _ (by omega) rfl rfl rfl rfl, bytes3_pack, ih]
    simp
  | case2 a b =>
    have := a.isLt; have := b.isLt
    simp only [Spec.Base64.encode, padChar_eq]
    rw [decFin_grp3 _ _ _ (isBase64_sym _) (isBase64_sym _) (isBase64_sym _), sextet_sym, sextet_sym, sextet_sym,
      val4_of_digits (a.toNat * 65536 + b.toNat * 256) _ _ _ _ (by omega) rfl rfl rfl (by omega),
      ofNat8_eq _ a (by omega), ofNat8_eq _ b (by omega)]
  | case3 a =>
    have := a.isLt
    simp only [Spec.Base64.encode, padChar_eq]
    rw [decFin_grp2 _ _ (isBase64_sym _) (isBase64_sym _), sextet_sym, sextet_sym,
      val4_of_digits (a.toNat * 65536) _ _ _ _ (by omega) rfl rfl (by omega) (by omega), ofNat8_eq _ a (by omega)]
  | case4 => simp [Spec.Base64.encode, decLoop_nil, decFin_ok0]

theorem base64ToHex_encode (bs : Bytes) : base64ToHex (Spec.Base64.encode bs) = .ok (some bs) := by
  rw [base64ToHex_decFin, decFin_aux]; simp

def decGroups : Bytes → Bytes
  | a :: b :: c :: d :: r => bytes3 (val4 (sextet a).toNat (sextet b).toNat (sextet c).toNat (sextet d).toNat) ++ decGroups r
  | _ => []

theorem groups_cases (g : Bytes) (n : Nat) (hl : g.length = 4 * (n + 1)) :
    ∃ a b c d r, g = a :: b :: c :: d :: r ∧ r.length = 4 * n := by
  match g, hl with
  | a :: b :: c :: d :: r, hl => exact ⟨a, b, c, d, r, rfl, by simp at hl; omega⟩

theorem decGroups_length (n : Nat) : ∀ g : Bytes, g.length = 4 * n → (decGroups g).length = 3 * n := by
  induction n with
  | zero => intro g hl; simp [List.length_eq_zero_iff.1 hl, decGroups]
  | succ n ih =>
    intro g hl
    obtain ⟨a, b, c, d, r, rfl, hr⟩ := groups_cases g n hl
    simp [decGroups, ih r hr]; omega

theorem decLoop_groups (n : Nat) : ∀ (g : Bytes), (∀ c ∈ g, isBase64 c = true) → g.length = 4 * n →
    ∀ (rest : Bytes) (tail : Nat) (out : Bytes),
      decLoop (g ++ rest) 0 0 tail out = decLoop rest 0 0 tail (out ++ decGroups g) := by
  induction n with
  | zero => intro g _ hl; simp [List.length_eq_zero_iff.1 hl, decGroups]
  | succ n ih =>
    intro g hg hl rest tail out
    obtain ⟨a, b, c, d, r, rfl, hr⟩ := groups_cases g n hl
    simp only [List.mem_cons, forall_eq_or_imp] at hg
    obtain ⟨ha, hb, hc, hd, hg⟩ := hg
    rw [List.cons_append, List.cons_append, List.cons_append, List.cons_append, decLoop_grp a b c d ha hb hc hd, ih r hg hr,
      decGroups, List.append_assoc]

theorem validLoop_two (s : Bytes) : validLoop s 2 = some 2 ↔ s = [] := by
  cases s with
  | nil => simp [validLoop]
  | cons c cs =>
    simp only [validLoop]
    split <;> simp

theorem validLoop_one (s : Bytes) : validLoop s 1 = some 2 ↔ s = [eqChar] := by
  cases s with
  | nil => simp [validLoop]
  | cons c cs =>
    simp only [validLoop]
    by_cases hc : c = eqChar
    · simp [hc, validLoop_two]
    · simp [hc]

theorem validLoop_alpha (body : Bytes) (hb : ∀ c ∈ body, isBase64 c = true) (rest : Bytes) :
    validLoop (body ++ rest) 0 = validLoop rest 0 := by
  induction body with
  | nil => rfl
  | cons c cs ih =>
    have hc := hb c (by simp)
    simp [validLoop, hc, (isBase64_ascii c hc).1, ih fun x hx => hb x (by simp [hx])]

theorem validLoop_zero (s : Bytes) :
    validLoop s 0 = some 2 ↔ ∃ body, (∀ c ∈ body, isBase64 c = true) ∧ s = body ++ [eqChar, eqChar] := by
  constructor
  · induction s with
    | nil => simp [validLoop]
    | cons c cs ih =>
      intro h
      simp only [validLoop] at h
      by_cases hc : c = eqChar
      · subst hc
        simp [validLoop_one] at h
        exact ⟨[], by simp, by simp [h]⟩
      · by_cases hb : isBase64 c = true
        · simp [hc, hb] at h
          obtain ⟨body, h1, rfl⟩ := ih h
          exact ⟨c :: body, by simpa [hb] using h1, rfl⟩
        · simp [hc, hb] at h
  · rintro ⟨body, hb, rfl⟩
    rw [validLoop_alpha body hb]
    decide

theorem isValidB64_iff_loop (s : Bytes) : isValidB64 s = true ↔ s.length = 24 ∧ validLoop s 0 = some 2 := by
  unfold isValidB64
  cases validLoop s 0 with
  | none => simp
  -- what is left: len % 4 = 0 ∧ len / 4 * 3 - 2 = 16 ∧ t = 2 ↔ len = 24 ∧ t = 2
  | some t => simp; omega

theorem isValidB64_iff_body (s : Bytes) :
    isValidB64 s = true ↔ ∃ body, body.length = 22 ∧ (∀ c ∈ body, Spec.Base64.isAlphabet c = true) ∧ s = body ++ [eqChar, eqChar] := by
  rw [isValidB64_iff_loop, validLoop_zero]
  simp only [isBase64_iff]
  constructor
  · rintro ⟨h1, body, h2, rfl⟩
    exact ⟨body, by simpa using h1, h2, rfl⟩
  · rintro ⟨body, h1, h2, rfl⟩
    exact ⟨by simp [h1], body, h2, rfl⟩

theorem getArgsKey_of (arg k : Bytes) (h : base64ToHex (arg.take 24) = .ok (some k)) (hk : ¬ k.length > 16) :
    getArgsKey arg = .ok (some k) := by
  unfold getArgsKey
  rw [h]
  show (if k.length > 16 then Except.error Fault.outOfBounds else pure (some k)) = _
  rw [if_neg hk]; rfl

theorem key_of_valid (s : Bytes) (h : isValidB64 s = true) :
    ∃ g a b, s = g ++ [a, b, eqChar, eqChar] ∧ g.length = 4 * 5 ∧ (∀ c ∈ g, isBase64 c = true) ∧ isBase64 a = true ∧ isBase64 b = true ∧
      getArgsKey s = .ok (some (decGroups g ++ [BitVec.ofNat 8 (val4 (sextet a).toNat (sextet b).toNat 0 0 / 65536)])) := by
  obtain ⟨body, h1, h2, rfl⟩ := (isValidB64_iff_body s).1 h
  simp only [← isBase64_iff] at h2
  obtain ⟨g, t, rfl, hg⟩ : ∃ g t, body = g ++ t ∧ g.length = 20 := ⟨body.take 20, body.drop 20, by simp, by simp; omega⟩
  have ht : t.length = 2 := by simp at h1; omega
  match t, ht with
  | [a, b], _ =>
    have hg' : ∀ c ∈ g, isBase64 c = true := fun c hc => h2 c (by simp [hc])
    have ha := h2 a (by simp); have hb := h2 b (by simp)
    refine ⟨g, a, b, by simp, hg, hg', ha, hb, ?_⟩
    apply getArgsKey_of
    · rw [List.take_of_length_le (by simp; omega), base64ToHex_decFin, List.append_assoc,
        decLoop_groups 5 g hg' hg, List.nil_append]
      exact decFin_grp2 a b ha hb _
    · simp [decGroups_length 5 g hg]

theorem accepted_decodes_16 (s : Bytes) (h : isValidB64 s = true) : ∃ k, getArgsKey s = .ok (some k) ∧ k.length = 16 := by
  obtain ⟨g, a, b, rfl, hl, -, -, -, hk⟩ := key_of_valid s h
  exact ⟨_, hk, by simp [decGroups_length 5 g hl]⟩

theorem printed_key_accepted (k : Bytes) (hk : k.length = 16) :
    isValidB64 (Spec.Base64.encode k) = true ∧ getArgsKey (Spec.Base64.encode k) = .ok (some k) := by
  match k, hk with
  | [k0, k1, k2, k3, k4, k5, k6, k7, k8, k9, k10, k11, k12, k13, k14, k15], _ =>
    have hlen : (Spec.Base64.encode [k0, k1, k2, k3, k4, k5, k6, k7, k8, k9, k10, k11, k12, k13, k14, k15]).length = 24 := by
      simp [Spec.Base64.encode]
    constructor
    · rw [isValidB64_iff_body]
      refine ⟨(Spec.Base64.encode [k0, k1, k2, k3, k4, k5, k6, k7, k8, k9, k10, k11, k12, k13, k14, k15]).take 22, ?_, ?_, ?_⟩
      · simp [hlen]
      · simp [Spec.Base64.encode, isAlphabet_sym]
      · simp [Spec.Base64.encode, padChar_eq]
    · apply getArgsKey_of
      · rw [List.take_of_length_le (by omega), base64ToHex_encode]
      · simp

end Wencry.Proofs.Base64

section AxiomCheck
open Wencry.Proofs.Base64
#print axioms b64T_eq_spec
#print axioms hexT_b64T
#print axioms hexT_255_iff
#print axioms isBase64_iff
#print axioms sextet_injective_on_alphabet
#print axioms sextet_lt_64
#print axioms hexToBase64_eq
#print axioms base64ToHex_encode
#print axioms isValidB64_iff_body
#print axioms accepted_decodes_16
#print axioms printed_key_accepted
end AxiomCheck
