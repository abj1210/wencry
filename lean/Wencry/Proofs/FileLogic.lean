/-
Decision logic of verify / decrypt on arbitrary byte strings (C11, C12, C06; `Accepted` is what C05 and C13 build on): `verify` returns
the table `verdict`, and `decrypt` is that table followed by the pipeline. Then what the delivered plaintext depends on (`Sim` …
`decrypt_congr`, for C05): the pipeline sees of its input only the unread bytes and the end-of-file indicator.
-/
import Wencry.Model.File
import Wencry.Proofs.HmacCorrect
import Wencry.Proofs.SeqLoop
namespace Wencry.Proofs.FileLogic
open Wencry Wencry.Model Wencry.Model.File Wencry.Model.Stdio Wencry.Model.IoBuffer
open Wencry.Proofs.Stdio Wencry.Proofs.Blocks Wencry.Proofs.SeqLoop

/-- what `hmac::getres` returns on a fresh stream that holds `m` -/
def tagOf (H h : Nat) (key : Block) (m : Bytes) : Option Bytes :=
  (Hmac.getres H h key.toList (RFile.open m)).map (·.1)

theorem tagOf_eq (H : Nat) (hH : 1 ≤ H) (h : Nat) (hh : h ≤ 2) (key : Block) (m : Bytes) :
    tagOf H h key m = some (Spec.HMAC.hmac (Spec.HMAC.hashOf h) key.toList m) := by
  obtain ⟨fp', hg, _⟩ := HmacCorrect.getres_eq H hH h hh key.toList (by simp) (RFile.open m)
  rw [tagOf, hg]; rfl

theorem hlen_eq (h : Nat) (hh : h ≤ 2) : Hash.hlen h = some (Spec.HMAC.tagLen h) :=
  match h, hh with
  | 0, _ => rfl
  | 1, _ => rfl
  | 2, _ => rfl

theorem tagOf_isSome (H : Nat) (hH : 1 ≤ H) (h : Nat) (hh : h ≤ 2) (key : Block) (m : Bytes) : (tagOf H h key m).isSome := by
  rw [tagOf_eq H hH h hh]; rfl

theorem tagOf_length {H h : Nat} (hH : 1 ≤ H) (hh : h ≤ 2) {key : Block} {m t : Bytes} (ht : tagOf H h key m = some t) :
    Hash.hlen h = some t.length := by
  rw [tagOf_eq H hH h hh] at ht
  cases ht
  rw [hlen_eq h hh, HmacCorrect.hmac_length]

theorem tagOf_length_bounds {H h : Nat} (hH : 1 ≤ H) (hh : h ≤ 2) {key : Block} {m t : Bytes} (ht : tagOf H h key m = some t) :
    16 ≤ t.length ∧ t.length ≤ 32 := by
  rw [tagOf_eq H hH h hh] at ht
  cases ht
  exact HmacCorrect.hmac_length_bounds ..

theorem magic_len {F : Bytes} (h : F.take 8 = Gen.magicBytes) : 8 ≤ F.length := by
  have := congrArg List.length h
  simp only [List.length_take, Gen.magicBytes, List.length_cons, List.length_nil] at this
  omega

/-- The literals 0, 8, 10, 48 are the generated `Gen.c_FILE_MN_MARK`, `c_FILE_MODE_MARK`, `c_FILE_HMAC_MARK`, `c_FILE_IV_MARK` of the
    model: this `rfl` is where they are tied to the numbers the rest of the file uses (C02's `layout_constants` states them) -/
theorem verify_unfold (cfg : Cfg) (key : Block) (F : Bytes) : verify cfg key F =
    if (F.take 8).length ≠ 8 then .ok (4, 255, 255)
    else if F.take 8 ≠ Gen.magicBytes then .ok (4, 255, 255)
    else
      let c := (F.drop 8).take 1
      let h := (F.drop (8 + c.length)).take 1
      let ctype := (c.getD 0 255).toNat
      let htype := (h.getD 0 255).toNat
      let stored := (F.drop 10).take 64
      if stored.length ≠ 64 then .ok (1, ctype, htype)
      else if ctype > 4 ∨ htype > 2 then .ok (3, ctype, htype)
      else match Hmac.cmphmac cfg.H htype key.toList ((RFile.open F).fseek 48) stored with
        | none => .error .nullDeref
        | some true => .ok (0, ctype, htype)
        | some false => .ok (2, ctype, htype) := by
  rfl

/-- what `runcrypt::verify` returns, as a function of the file: result code (4 = bad magic or shorter than 8, 1 = shorter than 74,
    3 = mode byte out of range, 2 = tag mismatch, 0 = accepted) and the two mode bytes as read.  Where the file ends before a mode
    byte, `fread` leaves the `u8_t(-1)` that the `FileHeader` constructor put there: hence 255 in the short branch. -/
def verdict (cfg : Cfg) (key : Block) (F : Bytes) : Nat × Nat × Nat :=
  if F.take 8 ≠ Gen.magicBytes then (4, 255, 255)
  else if F.length < 74 then (1, (F.getD 8 255).toNat, (F.getD 9 255).toNat)
  else
    let c := (F.getD 8 0).toNat
    let h := (F.getD 9 0).toNat
    if c > 4 ∨ h > 2 then (3, c, h)
    else if (tagOf cfg.H h key (F.drop 48)).any (fun t => decide ((F.drop 10).take t.length = t)) then (0, c, h)
    else (2, c, h)

theorem verdict_bad_magic {cfg : Cfg} {key : Block} {F : Bytes} (hm : F.take 8 ≠ Gen.magicBytes) : verdict cfg key F = (4, 255, 255) := by
  rw [verdict, if_pos hm]

theorem verdict_short {cfg : Cfg} {key : Block} {F : Bytes} (hm : F.take 8 = Gen.magicBytes) (hl : F.length < 74) :
    verdict cfg key F = (1, (F.getD 8 255).toNat, (F.getD 9 255).toNat) := by
  rw [verdict, if_neg (not_not_intro hm), if_pos hl]

theorem verdict_long {cfg : Cfg} {key : Block} {F : Bytes} (hm : F.take 8 = Gen.magicBytes) (hl : 74 ≤ F.length) :
    verdict cfg key F =
      if (F.getD 8 0).toNat > 4 ∨ (F.getD 9 0).toNat > 2 then (3, (F.getD 8 0).toNat, (F.getD 9 0).toNat)
      else if (tagOf cfg.H (F.getD 9 0).toNat key (F.drop 48)).any (fun t => decide ((F.drop 10).take t.length = t))
        then (0, (F.getD 8 0).toNat, (F.getD 9 0).toNat) else (2, (F.getD 8 0).toNat, (F.getD 9 0).toNat) := by
  rw [verdict, if_neg (not_not_intro hm), if_neg (Nat.not_lt.2 hl)]

/-- of the 64 bytes `verify` reads at offset 10, as many are compared as the tag is long -/
theorem cmphmac_stored (H : Nat) (hH : 1 ≤ H) (h : Nat) (hh : h ≤ 2) (key : Block) (F : Bytes) :
    Hmac.cmphmac H h key.toList ((RFile.open F).fseek 48) ((F.drop 10).take 64)
      = some ((tagOf H h key (F.drop 48)).any fun t => decide ((F.drop 10).take t.length = t)) := by
  have hfp : ((RFile.open F).fseek 48).data.drop ((RFile.open F).fseek 48).pos = F.drop 48 := rfl
  have ht64 : (Spec.HMAC.hmac (Spec.HMAC.hashOf h) key.toList (F.drop 48)).length ≤ 64 :=
    Nat.le_trans (HmacCorrect.hmac_length_bounds ..).2 (by decide)
  rw [HmacCorrect.cmphmac_eq H hH h hh key.toList (by simp), hfp, tagOf_eq H hH h hh, Option.any_some,
    List.take_take, Nat.min_eq_left ht64]

theorem mode_byte (F : Bytes) (k : Nat) (d : Byte) : ((F.drop k).take 1).getD 0 d = F.getD k d := by
  simp [List.getD_eq_getElem?_getD]

theorem getD_of_lt (F : Bytes) (k : Nat) (hk : k < F.length) (d d' : Byte) : F.getD k d = F.getD k d' := by
  simp [List.getD_eq_getElem?_getD, hk]

theorem verify_eq (cfg : Cfg) (hH : 1 ≤ cfg.H) (key : Block) (F : Bytes) : verify cfg key F = .ok (verdict cfg key F) := by
  rw [verify_unfold]
  by_cases hm : F.take 8 = Gen.magicBytes
  · have h8 := magic_len hm
    have e1 : ¬ (F.take 8).length ≠ 8 := by simp only [List.length_take]; omega
    rw [if_neg e1, if_neg (not_not_intro hm)]
    simp only [mode_byte]
    by_cases hl : F.length < 74
    · have e3 : ((F.drop 10).take 64).length ≠ 64 := by simp only [List.length_take, List.length_drop]; omega
      rw [if_pos e3, verdict_short hm hl]
      by_cases h9 : 8 < F.length
      · rw [show ((F.drop 8).take 1).length = 1 by simp only [List.length_take, List.length_drop]; omega]
      · -- no byte at offset 8: the second one-byte read starts at offset 8 as well and finds nothing either
        simp [List.getD_eq_getElem?_getD, show F.length ≤ 8 by omega, show F.length ≤ 9 by omega]
    · have e3 : ¬ ((F.drop 10).take 64).length ≠ 64 := by simp only [List.length_take, List.length_drop]; omega
      have e4 : ((F.drop 8).take 1).length = 1 := by simp only [List.length_take, List.length_drop]; omega
      rw [if_neg e3, verdict_long hm (by omega), e4, getD_of_lt F 8 (by omega) 255 0, getD_of_lt F 9 (by omega) 255 0]
      by_cases hr : (F.getD 8 0).toNat > 4 ∨ (F.getD 9 0).toNat > 2
      · rw [if_pos hr, if_pos hr]
      · rw [if_neg hr, if_neg hr, cmphmac_stored cfg.H hH _ (by omega)]
        cases Option.any _ _ <;> rfl
  · rw [verdict_bad_magic hm]
    by_cases h8 : (F.take 8).length ≠ 8
    · rw [if_pos h8]
    · rw [if_neg h8, if_pos hm]

/-- the files `verify` accepts under `key`: magic number, at least the 74 = 10 + 64 bytes that `getHmac(64)` reads at offset 10,
    mode bytes in range, and the stored tag is the tag of the bytes from offset 48 (`FILE_IV_MARK`) on -/
def Accepted (cfg : Cfg) (key : Block) (F : Bytes) : Prop :=
  F.take 8 = Gen.magicBytes ∧ 74 ≤ F.length ∧ (F.getD 8 0).toNat ≤ 4 ∧ (F.getD 9 0).toNat ≤ 2 ∧
  ∃ t, tagOf cfg.H (F.getD 9 0).toNat key (F.drop 48) = some t ∧ (F.drop 10).take t.length = t

section
variable {cfg : Cfg} {key : Block} {F : Bytes}

theorem Accepted.magic (h : Accepted cfg key F) : F.take 8 = Gen.magicBytes := h.1
theorem Accepted.length (h : Accepted cfg key F) : 74 ≤ F.length := h.2.1
theorem Accepted.ctype (h : Accepted cfg key F) : (F.getD 8 0).toNat ≤ 4 := h.2.2.1
theorem Accepted.htype (h : Accepted cfg key F) : (F.getD 9 0).toNat ≤ 2 := h.2.2.2.1
theorem Accepted.tag (h : Accepted cfg key F) :
    ∃ t, tagOf cfg.H (F.getD 9 0).toNat key (F.drop 48) = some t ∧ (F.drop 10).take t.length = t := h.2.2.2.2

/-- `Accepted` reads of the file only its first 8 bytes, its length, the range of byte 8, byte 9 and the bytes from offset 10 on -/
theorem Accepted.congr {F' : Bytes} (h : Accepted cfg key F) (h8 : F'.take 8 = F.take 8)
    (hl : F'.length = F.length) (hc : (F'.getD 8 0).toNat ≤ 4) (h9 : F'.getD 9 0 = F.getD 9 0) (h10 : F'.drop 10 = F.drop 10) :
    Accepted cfg key F' := by
  obtain ⟨t, ht, hcmp⟩ := h.tag
  have h48 : F'.drop (10 + 38) = F.drop (10 + 38) := by rw [← List.drop_drop, ← List.drop_drop, h10]
  exact ⟨h8 ▸ h.magic, hl ▸ h.length, hc, h9 ▸ h.htype, t, by rw [h9, h48]; exact ht, by rw [h10]; exact hcmp⟩

theorem verdict_accepted (h : Accepted cfg key F) :
    verdict cfg key F = (0, (F.getD 8 0).toNat, (F.getD 9 0).toNat) := by
  obtain ⟨t, ht, hcmp⟩ := h.tag
  rw [verdict_long h.magic h.length, if_neg (not_or.2 ⟨Nat.not_lt.2 h.ctype, Nat.not_lt.2 h.htype⟩),
    if_pos (by rw [ht]; simpa using hcmp)]

end

theorem verdict_zero_iff (cfg : Cfg) (key : Block) (F : Bytes) : (verdict cfg key F).1 = 0 ↔ Accepted cfg key F := by
  refine ⟨fun h0 => ?_, fun h => by rw [verdict_accepted h]⟩
  -- every other row of the table has a code different from 0
  by_cases hm : F.take 8 = Gen.magicBytes
  · by_cases hl : F.length < 74
    · rw [verdict_short hm hl] at h0; cases h0
    · rw [verdict_long hm (by omega)] at h0
      by_cases hr : (F.getD 8 0).toNat > 4 ∨ (F.getD 9 0).toNat > 2
      · rw [if_pos hr] at h0; cases h0
      · rw [if_neg hr] at h0
        by_cases hb : Option.any (fun t => decide ((F.drop 10).take t.length = t)) (tagOf cfg.H (F.getD 9 0).toNat key (F.drop 48)) = true
        · obtain ⟨t, ht, hcmp⟩ := (Option.any_eq_true _ _).1 hb
          exact ⟨hm, by omega, by omega, by omega, t, ht, of_decide_eq_true hcmp⟩
        · rw [if_neg hb] at h0; cases h0
  · rw [verdict_bad_magic hm] at h0; cases h0

theorem executeVerify_eq (cfg : Cfg) (hH : 1 ≤ cfg.H) (key : Block) (F : Bytes) :
    executeVerify cfg key F = .ok (verdict cfg key F).1 := by
  rw [executeVerify, verify_eq cfg hH]; rfl

theorem executeVerify_zero_iff (cfg : Cfg) (hH : 1 ≤ cfg.H) (key : Block) (F : Bytes) :
    executeVerify cfg key F = .ok 0 ↔ Accepted cfg key F := by
  rw [executeVerify_eq cfg hH, ← verdict_zero_iff]
  exact ⟨fun h => Except.ok.inj h, fun h => by rw [h]⟩

theorem prepareAES_eq_ok {T ctype : Nat} {key : Block} {iv : Bytes} {isenc : Bool} {ss : List Modes.Stream} :
    prepareAES T ctype key iv isenc = .ok ss ↔
      ∃ k, Modes.factoryKind isenc ctype = some k ∧
        ss = List.replicate T { kind := k, crypt := Modes.cryptFn k key, iv := Block.ofListD iv } := by
  unfold prepareAES Modes.create
  cases Modes.factoryKind isenc ctype <;> simp [eq_comm]

theorem prepareAES_ok (T ctype : Nat) (key : Block) (iv : Bytes) (isenc : Bool) (hc : ctype ≤ 4) :
    ∃ k, Modes.factoryKind isenc ctype = some k ∧
      prepareAES T ctype key iv isenc = .ok (List.replicate T { kind := k, crypt := Modes.cryptFn k key, iv := Block.ofListD iv }) := by
  obtain ⟨k, hk⟩ := Option.ne_none_iff_exists'.1 fun hn => Nat.not_lt.2 hc (Modes.factoryKind_eq_none_iff.1 hn)
  exact ⟨k, hk, prepareAES_eq_ok.2 ⟨k, hk, rfl⟩⟩

theorem decrypt_eq (cfg : Cfg) (hH : 1 ≤ cfg.H) (key : Block) (F : Bytes) :
    decrypt cfg key F =
      if (verdict cfg key F).1 ≠ 0 then .ok ((verdict cfg key F).1, WFile.empty)
      else match prepareAES cfg.T (verdict cfg key F).2.1 key ((F.drop 48).take (20 * cfg.T)) false with
        | .error e => .error e
        | .ok ss => .ok (0, (seqPipeline cfg.T cfg.B false ss ⟨F, textMark cfg.T, false⟩ WFile.empty).2.2) := by
  unfold decrypt
  rw [verify_eq cfg hH]
  generalize verdict cfg key F = r
  obtain ⟨res, c, h⟩ := r
  simp only [bind, Except.bind]
  by_cases hr : res ≠ 0
  · rw [if_pos hr, if_pos hr]; rfl
  · rw [if_neg hr, if_neg hr]
    have e : (((RFile.open F).fseek Gen.c_FILE_IV_MARK).fread (20 * cfg.T)).snd = (F.drop 48).take (20 * cfg.T) := rfl
    -- the IV read may hit the end of the file; the `fseek` to the body clears the end-of-file indicator again
    have e' : (((RFile.open F).fseek Gen.c_FILE_IV_MARK).fread (20 * cfg.T)).fst.fseek (textMark cfg.T) = ⟨F, textMark cfg.T, false⟩ := rfl
    rw [e, e']
    cases prepareAES cfg.T c key ((F.drop 48).take (20 * cfg.T)) false <;> rfl

theorem decrypt_rejected (cfg : Cfg) (hH : 1 ≤ cfg.H) (key : Block) (F : Bytes) (h : ¬ Accepted cfg key F) :
    decrypt cfg key F = .ok ((verdict cfg key F).1, WFile.empty) := by
  rw [← verdict_zero_iff] at h
  rw [decrypt_eq cfg hH, if_pos h]

theorem decrypt_accepted (cfg : Cfg) (hH : 1 ≤ cfg.H) (key : Block) (F : Bytes) (h : Accepted cfg key F) :
    ∃ s, Modes.create false (F.getD 8 0).toNat key (Block.ofListD ((F.drop 48).take (20 * cfg.T))) = some s ∧
      decrypt cfg key F = .ok (0, (seqPipeline cfg.T cfg.B false (List.replicate cfg.T s) ⟨F, textMark cfg.T, false⟩ WFile.empty).2.2) := by
  obtain ⟨k, hk, hp⟩ := prepareAES_ok cfg.T _ key ((F.drop 48).take (20 * cfg.T)) false h.ctype
  refine ⟨_, Modes.create_of_factoryKind hk key _, ?_⟩
  rw [decrypt_eq cfg hH, verdict_accepted h, if_neg (not_not_intro rfl)]
  simp only [hp]

theorem decrypt_zero_iff (cfg : Cfg) (hH : 1 ≤ cfg.H) (key : Block) (F : Bytes) :
    (∃ out, decrypt cfg key F = .ok (0, out)) ↔ Accepted cfg key F := by
  constructor
  · rintro ⟨out, hd⟩
    refine Classical.byContradiction fun h => ?_
    rw [decrypt_rejected cfg hH key F h] at hd
    exact h ((verdict_zero_iff cfg key F).1 (congrArg Prod.fst (Except.ok.inj hd)))
  · intro h
    obtain ⟨s, _, hd⟩ := decrypt_accepted cfg hH key F h
    exact ⟨_, hd⟩

theorem decrypt_ok_zero (cfg : Cfg) (hH : 1 ≤ cfg.H) (key : Block) (F : Bytes) (out : WFile) (hd : decrypt cfg key F = .ok (0, out)) :
    Accepted cfg key F ∧
    ∃ s, Modes.create false (F.getD 8 0).toNat key (Block.ofListD ((F.drop 48).take (20 * cfg.T))) = some s ∧
      out = (seqPipeline cfg.T cfg.B false (List.replicate cfg.T s) ⟨F, textMark cfg.T, false⟩ WFile.empty).2.2 := by
  have hacc := (decrypt_zero_iff cfg hH key F).1 ⟨out, hd⟩
  obtain ⟨s, hs, hd'⟩ := decrypt_accepted cfg hH key F hacc
  rw [hd'] at hd
  exact ⟨hacc, s, hs, (congrArg Prod.snd (Except.ok.inj hd)).symm⟩

theorem decrypt_total (cfg : Cfg) (hH : 1 ≤ cfg.H) (key : Block) (F : Bytes) :
    ∃ code out, decrypt cfg key F = .ok (code, out) ∧ executeVerify cfg key F = .ok code ∧
      (code ≠ 0 → out.log = [] ∧ out.data = []) := by
  by_cases h : Accepted cfg key F
  · obtain ⟨s, _, hd⟩ := decrypt_accepted cfg hH key F h
    exact ⟨0, _, hd, (executeVerify_zero_iff cfg hH key F).2 h, fun h => absurd rfl h⟩
  · exact ⟨_, _, decrypt_rejected cfg hH key F h, executeVerify_eq cfg hH key F, fun _ => ⟨rfl, rfl⟩⟩

theorem verify_iff_decrypt (cfg : Cfg) (hH : 1 ≤ cfg.H) (key : Block) (F : Bytes) :
    executeVerify cfg key F = .ok 0 ↔ ∃ out, decrypt cfg key F = .ok (0, out) :=
  (executeVerify_zero_iff cfg hH key F).trans (decrypt_zero_iff cfg hH key F).symm

def Sim (f1 f2 : RFile) : Prop := f1.data.drop f1.pos = f2.data.drop f2.pos ∧ f1.eof = f2.eof

theorem Sim.remaining {f1 f2 : RFile} (h : Sim f1 f2) : f1.remaining = f2.remaining := by
  rw [remaining_eq, remaining_eq, h.1]

theorem fread_sim {f1 f2 : RFile} (h : Sim f1 f2) (n : Nat) :
    (f1.fread n).2 = (f2.fread n).2 ∧ Sim (f1.fread n).1 (f2.fread n).1 := by
  have h2 : (f1.fread n).2 = (f2.fread n).2 := by rw [fread_snd, fread_snd, h.1]
  refine ⟨h2, ?_, ?_⟩
  · rw [fread_data, fread_pos, fread_data, fread_pos, ← List.drop_drop, ← List.drop_drop, h.1, h2]
  · rw [fread_eof, fread_eof, h.2, h2]

theorem peekEof_sim {f1 f2 : RFile} (h : Sim f1 f2) :
    f1.peekEof.2 = f2.peekEof.2 ∧ Sim f1.peekEof.1 f2.peekEof.1 := by
  have hr : f1.data.length - f1.pos = f2.data.length - f2.pos := h.remaining
  have h2 : f1.peekEof.2 = f2.peekEof.2 := by
    rw [peekEof_snd, peekEof_snd]; exact decide_eq_decide.2 (by omega)
  exact ⟨h2, by rw [peekEof_drop, peekEof_drop, h.1], by rw [peekEof_eof, peekEof_eof, h.2, h2]⟩

/-- `load_buffer`'s read of `n` bytes and, when not padding and not yet at end of file, its look-ahead: flag and stream afterwards -/
theorem readPeek_sim (p : Bool) {f1 f2 : RFile} (h : Sim f1 f2) (n : Nat) :
    (if !p && !(f1.fread n).1.eof then (f1.fread n).1.peekEof.2 else (f1.fread n).1.eof) =
      (if !p && !(f2.fread n).1.eof then (f2.fread n).1.peekEof.2 else (f2.fread n).1.eof) ∧
    Sim (if !p && !(f1.fread n).1.eof then (f1.fread n).1.peekEof.1 else (f1.fread n).1)
      (if !p && !(f2.fread n).1.eof then (f2.fread n).1.peekEof.1 else (f2.fread n).1) := by
  obtain ⟨_, hs⟩ := fread_sim h n
  rw [hs.2]
  split
  · exact peekEof_sim hs
  · exact ⟨rfl, hs⟩

theorem loadBuffer_sim (B : Nat) (p : Bool) {f1 f2 : RFile} (h : Sim f1 f2) :
    (loadBuffer B f1 p IoBuf.new).2 = (loadBuffer B f2 p IoBuf.new).2 ∧
      Sim (loadBuffer B f1 p IoBuf.new).1 (loadBuffer B f2 p IoBuf.new).1 := by
  have hg : (f1.data.drop f1.pos).take (16 * B) = (f2.data.drop f2.pos).take (16 * B) := (fread_sim h (16 * B)).1
  obtain ⟨h2, hs⟩ := readPeek_sim p h (16 * B)
  simp only [RFile.fread, hg] at h2 hs
  -- by `loadBuffer_eq` the stream is the one after read and look-ahead in every branch, and the rest is a function of the
  -- bytes read and of the end-of-file flag after the look-ahead
  simp only [SeqLoop.loadBuffer_eq, apply_ite Prod.fst, apply_ite Prod.snd, ite_self, hg]
  refine ⟨?_, hs⟩
  rw [h2]; rfl

theorem loads_sim (B : Nat) (p : Bool) : ∀ (fuel : Nat) (f1 f2 : RFile), Sim f1 f2 → loads B p fuel f1 = loads B p fuel f2 := by
  intro fuel
  induction fuel with
  | zero => intros; rfl
  | succ n ih =>
    intro f1 f2 h
    obtain ⟨h2, hs⟩ := loadBuffer_sim B p h
    rw [loads, loads, h2, ih _ _ hs]

theorem seqPipeline_sim (T B : Nat) (p : Bool) (ss : List Modes.Stream) (f1 f2 : RFile) (fout : WFile) (h : Sim f1 f2) :
    (seqPipeline T B p ss f1 fout).2.2 = (seqPipeline T B p ss f2 fout).2.2 := by
  rw [seqPipeline_eq, seqPipeline_eq, exports, exports, h.remaining, loads_sim B p _ f1 f2 h]

/-- the plaintext delivered depends only on the worker count, chunk size, key, cipher-mode byte and the bytes from offset 48 on:
    in particular not on the tag, the gap behind it, or the hash-mode byte -/
theorem decrypt_congr (cfg : Cfg) (hH : 1 ≤ cfg.H) (key : Block) (F1 F2 : Bytes) (o1 o2 : WFile)
    (h8 : F1.getD 8 0 = F2.getD 8 0) (h48 : F1.drop 48 = F2.drop 48)
    (h1 : decrypt cfg key F1 = .ok (0, o1)) (h2 : decrypt cfg key F2 = .ok (0, o2)) : o1.data = o2.data := by
  obtain ⟨_, s1, hs1, rfl⟩ := decrypt_ok_zero cfg hH key F1 o1 h1
  obtain ⟨_, s2, hs2, rfl⟩ := decrypt_ok_zero cfg hH key F2 o2 h2
  rw [h8, h48, hs2] at hs1
  cases hs1
  have hsim : Sim ⟨F1, textMark cfg.T, false⟩ ⟨F2, textMark cfg.T, false⟩ := by
    refine ⟨?_, rfl⟩
    show F1.drop (48 + 20 * cfg.T) = F2.drop (48 + 20 * cfg.T)
    rw [← List.drop_drop, ← List.drop_drop, h48]
  rw [seqPipeline_sim cfg.T cfg.B false _ _ _ _ hsim]
end Wencry.Proofs.FileLogic

section AxiomCheck
open Wencry.Proofs.FileLogic
#print axioms tagOf_isSome
#print axioms verify_eq
#print axioms verdict_zero_iff
#print axioms prepareAES_eq_ok
#print axioms decrypt_ok_zero
#print axioms tagOf_length
#print axioms decrypt_total
#print axioms verify_iff_decrypt
#print axioms decrypt_congr
end AxiomCheck
