/-
Round-robin interleaving: when the chunks are dealt over `T` streams that each run on continuously, chunk `c` is transformed by
stream `c % T` in the state it has after the earlier chunks of its residue class (`runChunks_seg`); so it comes out as a slice of
the one continuous run of that stream over all its chunks (`runChunks_replicate`).
-/
import Wencry.Proofs.SeqLoop
namespace Wencry.Proofs.EncSpec
open Wencry Wencry.Model Wencry.Model.Modes Wencry.Proofs.Modes Wencry.Proofs.SeqLoop

theorem streamInput_eq (T : Nat) (chunks : List (List Block)) (i : Nat) :
    Spec.Wenc.streamInput T chunks i = seg T (chunks.getD · []) 0 chunks.length i := by
  simp [Spec.Wenc.streamInput, seg, List.range_eq_range']

/-- stream `j % T` has had `j / T` chunks before chunk `j`: by `seg_next`, chunk `j - T` is the last of them -/
theorem seg_length_self (T B : Nat) (hT : 1 ≤ T) (chunks : List (List Block)) (j : Nat)
    (h : ∀ j', j' < j → (chunks.getD j' []).length = B) : (seg T (chunks.getD · []) 0 j (j % T)).length = (j / T) * B := by
  induction j using Nat.strongRecOn with
  | _ j ih =>
    by_cases hj : j < T
    · rw [seg_low (Nat.mod_lt j (by omega)) (by rw [Nat.mod_eq_of_lt hj]; omega), Nat.div_eq_of_lt hj]; simp
    · rw [seg_next (sub_mod_self (Nat.le_of_not_lt hj)) (by omega) (by omega), List.length_append, ← sub_mod_self (Nat.le_of_not_lt hj),
        ih (j - T) (by omega) fun j' hj' => h j' (by omega), h (j - T) (by omega), Nat.div_eq_sub_div (by omega) (Nat.le_of_not_lt hj),
        Nat.add_mul, Nat.one_mul]

/-- `ws0 i` is the initial state of stream `i`, `g c` chunk `c`; the hypothesis is the invariant of the stream list -/
theorem runChunks_seg {T : Nat} (hT : 1 ≤ T) (ws0 : Nat → Stream) (g : Nat → List Block) :
    ∀ (n j : Nat) (ss : List Stream), (∀ i, i < T → ss[i]? = some ((ws0 i).run (seg T g 0 j i)).1) →
      runChunks T j ss ((List.range' j n).map g) =
        (List.range' j n).map fun c => (((ws0 (c % T)).run (seg T g 0 c (c % T))).1.run (g c)).2 := by
  intro n
  induction n with
  | zero => intros; rfl
  | succ n ih =>
    intro j ss hinv
    have hm : j % T < T := Nat.mod_lt j (by omega)
    simp only [List.range'_succ, List.map_cons, runChunks, hinv (j % T) hm]
    congr 1
    apply ih (j + 1)
    intro i hi
    rw [List.getElem?_set, seg_append (m := j) (n := 1), Nat.zero_add, seg_one]
    by_cases h1 : j % T = i
    · subst h1
      rw [if_pos rfl, if_pos (List.getElem?_eq_some_iff.mp (hinv _ hm)).1, if_pos rfl, run_append]
    · rw [if_neg h1, hinv i hi, if_neg h1, List.append_nil]

def sliceOf (T : Nat) (s0 : Stream) (chunks : List (List Block)) (j : Nat) : List Block :=
  ((s0.run (seg T (chunks.getD · []) 0 chunks.length (j % T))).2.drop (seg T (chunks.getD · []) 0 j (j % T)).length).take (chunks.getD j []).length

theorem slice_eq (s0 : Stream) (P c R : List Block) :
    ((s0.run (P ++ (c ++ R))).2.drop P.length).take c.length = ((s0.run P).1.run c).2 := by
  rw [run_append, run_append]
  simp only []
  rw [List.drop_left' (run_length s0 P), List.take_left' (run_length _ c)]

theorem runChunks_replicate (T : Nat) (hT : 1 ≤ T) (s0 : Stream) (chunks : List (List Block)) :
    runChunks T 0 (List.replicate T s0) chunks = (List.range chunks.length).map (sliceOf T s0 chunks) := by
  have hc : (List.range' 0 chunks.length).map (chunks.getD · []) = chunks :=
    List.ext_getElem (by simp) fun j h1 h2 => by simp [List.getD_eq_getElem?_getD, h2]
  conv => lhs; rw [← hc]
  rw [runChunks_seg hT (fun _ => s0) _ _ 0 _ fun i hi => by simp [seg_zero, hi, run_nil], List.range_eq_range']
  apply List.map_congr_left
  intro j hj
  -- what stream `j % T` sees in all: what it saw before chunk `j`, chunk `j`, and the rest
  obtain ⟨k, hk⟩ : ∃ k, chunks.length = j + (1 + k) := ⟨chunks.length - j - 1, by simp at hj; omega⟩
  rw [sliceOf, hk, seg_append, seg_append, seg_one, Nat.zero_add, if_pos rfl, slice_eq]

end Wencry.Proofs.EncSpec
