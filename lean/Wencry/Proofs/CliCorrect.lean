/-
C17 at the level of option tokens: the model of `get_v_opt` + `main` never faults, starts an operation only well-formed and
diagnoses every documented misuse. `getVOpt` is a fold of the fault-free `step` over the tokens (`run`) followed by `finish`;
`Parsed` is the invariant of the fold.
-/
import Wencry.Model.Getopt
import Wencry.Proofs.Base64Correct
namespace Wencry.Proofs.Cli
open Wencry Wencry.Model.Cli Wencry.Model.Getopt

def keyOf (arg : Bytes) : Bytes :=
  match Model.Base64.getArgsKey arg with
  | .ok (some k) => k
  | _ => []

def step (p : Pak) : Tok → Option Pak
  | .e => setMode p 'e'
  | .d => setMode p 'd'
  | .v => setMode p 'v'
  | .V => setMode p 'V'
  | .h => setMode p 'h'
  | .n => some { p with noEcho := true }
  | .i path opens =>
    if opens then some { p with fout := (path ++ dotWenc).take 127, foutFits := decide (path.length + 5 < 128), fp := some path }
    else none
  | .o path opens => if opens then some { p with out := some path } else none
  | .k arg => if Model.Base64.isValidB64 arg then some { p with key := some (keyOf arg) } else none
  | .cmode arg => if p.ctype = -1 then (if checkCtype (atoi arg) then some { p with ctype := atoi arg } else none) else none
  | .hmode arg => if p.htype = -1 then (if checkHtype (atoi arg) then some { p with htype := atoi arg } else none) else none
  | .m _ => none
  | .unknown => none

theorem keyOf_length {arg : Bytes} (h : Model.Base64.isValidB64 arg = true) :
    Model.Base64.getArgsKey arg = .ok (some (keyOf arg)) ∧ (keyOf arg).length = 16 := by
  obtain ⟨k, hk, hl⟩ := Base64.accepted_decodes_16 arg h
  simp [keyOf, hk, hl]

theorem parseOpt_eq (p : Pak) (t : Tok) : parseOpt p t = .ok (step p t) := by
  cases t with
  | i path opens => cases opens <;> rfl
  | o path opens => cases opens <;> rfl
  | k arg =>
    by_cases hv : Model.Base64.isValidB64 arg = true
    · have := (keyOf_length hv).1
      simp [parseOpt, step, hv, this]
    · simp [parseOpt, step, hv]
  | cmode arg => (simp only [parseOpt, step]; repeat' split) <;> rfl
  | hmode arg => (simp only [parseOpt, step]; repeat' split) <;> rfl
  | _ => rfl

def run (p : Pak) : List Tok → Option Pak
  | [] => some p
  | t :: ts => match step p t with
    | none => none
    | some p' => run p' ts

theorem parseAll_eq (p : Pak) (toks : List Tok) : parseAll p toks = .ok (run p toks) := by
  induction toks generalizing p with
  | nil => rfl
  | cons t ts ih =>
    simp only [parseAll, run, parseOpt_eq]
    cases step p t with
    | none => rfl
    | some p' => exact ih p'

theorem getVOpt_eq_finish (toks : List Tok) (d : Bool) : getVOpt toks d = finish d (run Pak.init toks) := by
  unfold getVOpt
  rw [parseAll_eq]
  cases run Pak.init toks <;> rfl

theorem ok_ite {ε α} (c : Prop) [Decidable c] (a b : α) :
    (if c then (Except.ok a : Except ε α) else .ok b) = .ok (if c then a else b) := by
  split <;> rfl

theorem finish_total (d : Bool) (r : Option Pak) : ∃ o, finish d r = .ok o := by
  rcases r with _ | ⟨mode, ctype, htype, ne, fp, out, key, fout, fits⟩
  · exact ⟨_, rfl⟩
  -- once the three optional fields are known only `if`s are left; every branch is a `pure`, and `.ok` moves out through them
  cases fp <;> cases out <;> cases key
  all_goals simp only [finish, pure, Except.pure, ok_ite]
  all_goals exact ⟨_, rfl⟩

theorem getVOpt_no_fault (toks : List Tok) (d : Bool) : ∃ o, getVOpt toks d = .ok o :=
  getVOpt_eq_finish toks d ▸ finish_total d _

theorem finish_none (d : Bool) : finish d none = .ok .diag := rfl

theorem finish_unset {d : Bool} {p : Pak} (h : p.mode = 'u') : finish d (some p) = .ok .diag := by
  simp [finish, h, pure, Except.pure]

theorem finish_missing {d : Bool} {p : Pak} {o : Outcome} (ho : finish d (some p) = .ok o) :
    (p.fp = none → p.mode = 'e' ∨ p.mode = 'd' ∨ p.mode = 'v' → o = .diag) ∧
    (p.key = none → p.mode = 'd' ∨ p.mode = 'v' → o = .diag) ∧
    (p.out = none → p.mode = 'd' → o = .diag) := by
  refine ⟨fun hf hm => ?_, fun hk hm => ?_, fun hout hm => ?_⟩
  · rcases hm with hm | hm | hm
    all_goals simp [finish, hm, hf, pure, Except.pure] at ho
    all_goals exact ho.symm
  · rcases hm with hm | hm <;> cases hf : p.fp
    all_goals simp [finish, hm, hk, hf, pure, Except.pure] at ho
    all_goals exact ho.symm
  · cases hf : p.fp <;> cases hk : p.key
    all_goals simp [finish, hm, hout, hf, hk, pure, Except.pure] at ho
    all_goals exact ho.symm

theorem checkCtype_iff {n : Int} : checkCtype n = true ↔ 0 ≤ n ∧ n < 5 := by simp [checkCtype]
theorem checkHtype_iff {n : Int} : checkHtype n = true ↔ 0 ≤ n ∧ n < 3 := by simp [checkHtype]

theorem setMode_some {p p' : Pak} {c : Char} (h : setMode p c = some p') : p.mode = 'u' ∧ p' = { p with mode := c } := by
  unfold setMode at h
  split at h
  · exact ⟨‹_›, (Option.some.inj h).symm⟩
  · cases h

/-- `Props.C17.no_or_two_modes_is_diagnosed` is stated with it -/
def modeCount (toks : List Tok) : Nat := (toks.filter fun t => t = .e ∨ t = .d ∨ t = .v ∨ t = .V ∨ t = .h).length

def modeChar : Tok → Option Char
  | .e => some 'e' | .d => some 'd' | .v => some 'v' | .V => some 'V' | .h => some 'h'
  | _ => none

def modes (toks : List Tok) : List Char := toks.filterMap modeChar

theorem modes_snoc (ts : List Tok) (t : Tok) : modes (ts ++ [t]) = modes ts ++ (modeChar t).toList := by
  cases h : modeChar t <;> simp [modes, h]

theorem modeCount_eq (toks : List Tok) : modeCount toks = (modes toks).length := by
  induction toks with
  | nil => rfl
  | cons t ts ih => cases t <;> simp [modeCount, modes, modeChar, List.filterMap_cons] at ih ⊢ <;> omega

structure Parsed (toks : List Tok) (p : Pak) : Prop where
  ctype : p.ctype = -1 ∨ (0 ≤ p.ctype ∧ p.ctype ≤ 4)
  htype : p.htype = -1 ∨ (0 ≤ p.htype ∧ p.htype ≤ 2)
  keylen : ∀ k, p.key = some k → k.length = 16
  mode : modes toks = if p.mode = 'u' then [] else [p.mode]
  fp : (∀ a b, Tok.i a b ∉ toks) → p.fp = none
  key : (∀ a, Tok.k a ∉ toks) → p.key = none
  out : (∀ a b, Tok.o a b ∉ toks) → p.out = none

theorem Parsed.mode_unset {toks : List Tok} {p : Pak} (hP : Parsed toks p) (h : modeCount toks ≠ 1) : p.mode = 'u' := by
  rw [modeCount_eq, hP.mode] at h
  by_cases hu : p.mode = 'u'
  · exact hu
  · simp [hu] at h

theorem Parsed.mode_of {toks : List Tok} {p : Pak} (hP : Parsed toks p) {t : Tok} {c : Char} (hc : modeChar t = some c)
    (ht : t ∈ toks) : p.mode = c := by
  have hm : c ∈ modes toks := List.mem_filterMap.2 ⟨t, ht, hc⟩
  rw [hP.mode] at hm
  split at hm
  · cases hm
  · exact (List.mem_singleton.1 hm).symm

theorem parsed_init : Parsed [] Pak.init := by
  constructor <;> simp [Pak.init, modes]

theorem parsed_step {ts : List Tok} {p p' : Pak} {t : Tok} (hp : Parsed ts p) (h : step p t = some p') :
    Parsed (ts ++ [t]) p' := by
  have hm := hp.mode
  have hf' : (∀ a b, Tok.i a b ∉ ts ++ [t]) → p.fp = none := fun hn => hp.fp fun a b hm => hn a b (List.mem_append_left _ hm)
  have hk' : (∀ a, Tok.k a ∉ ts ++ [t]) → p.key = none := fun hn => hp.key fun a hm => hn a (List.mem_append_left _ hm)
  have ho' : (∀ a b, Tok.o a b ∉ ts ++ [t]) → p.out = none := fun hn => hp.out fun a b hm => hn a b (List.mem_append_left _ hm)
  have hm' : modeChar t = none → modes (ts ++ [t]) = if p.mode = 'u' then [] else [p.mode] := fun ht => by
    rw [modes_snoc, ht, hm]
    exact List.append_nil _
  cases t with
  | e | d | v | V | h =>
    obtain ⟨hu, rfl⟩ := setMode_some h
    rw [if_pos hu] at hm
    exact ⟨hp.ctype, hp.htype, hp.keylen, by rw [modes_snoc, hm]; rfl, hf', hk', ho'⟩  -- `rfl` decides `c = 'u'` for the letter at hand
  | n =>
    cases h
    exact ⟨hp.ctype, hp.htype, hp.keylen, hm' rfl, hf', hk', ho'⟩
  | i path opens =>
    cases opens <;> cases h
    exact ⟨hp.ctype, hp.htype, hp.keylen, hm' rfl, fun hn => (hn path true (by simp)).elim, hk', ho'⟩
  | o path opens =>
    cases opens <;> cases h
    exact ⟨hp.ctype, hp.htype, hp.keylen, hm' rfl, hf', hk', fun hn => (hn path true (by simp)).elim⟩
  | k arg =>
    simp only [step] at h
    split at h <;> cases h
    refine ⟨hp.ctype, hp.htype, fun k hk => ?_, hm' rfl, hf', fun hn => (hn arg (by simp)).elim, ho'⟩
    cases hk
    exact (keyOf_length ‹_›).2
  | cmode arg =>
    simp only [step] at h
    repeat' split at h
    all_goals cases h
    have := checkCtype_iff.1 ‹_›
    exact ⟨Or.inr (by simp only; omega), hp.htype, hp.keylen, hm' rfl, hf', hk', ho'⟩
  | hmode arg =>
    simp only [step] at h
    repeat' split at h
    all_goals cases h
    have := checkHtype_iff.1 ‹_›
    exact ⟨hp.ctype, Or.inr (by simp only; omega), hp.keylen, hm' rfl, hf', hk', ho'⟩
  | m _ => cases h
  | unknown => cases h

theorem run_parsed_from {pre toks : List Tok} {p p' : Pak} (hp : Parsed pre p) (h : run p toks = some p') :
    Parsed (pre ++ toks) p' := by
  induction toks generalizing pre p with
  | nil =>
    cases h
    simpa using hp
  | cons t ts ih =>
    simp only [run] at h
    cases h1 : step p t with
    | none => simp [h1] at h
    | some p1 =>
      rw [h1] at h
      simpa using ih (parsed_step hp h1) h

theorem run_parsed {toks : List Tok} {p : Pak} (h : run Pak.init toks = some p) : Parsed toks p := by
  simpa using run_parsed_from parsed_init h

theorem getVOpt_ok {toks : List Tok} {d : Bool} {o : Outcome} (ho : getVOpt toks d = .ok o) :
    o = .diag ∨ ∃ p, Parsed toks p ∧ finish d (some p) = .ok o := by
  rw [getVOpt_eq_finish] at ho
  cases hp : run Pak.init toks with
  | none =>
    rw [hp, finish_none] at ho
    exact Or.inl (Except.ok.inj ho).symm
  | some p => exact Or.inr ⟨p, run_parsed hp, hp ▸ ho⟩

theorem finish_wf {d : Bool} {p : Pak} (h1 : p.ctype = -1 ∨ (0 ≤ p.ctype ∧ p.ctype ≤ 4)) (h2 : p.htype = -1 ∨ (0 ≤ p.htype ∧ p.htype ≤ 2))
    (h3 : ∀ k, p.key = some k → k.length = 16) {op : Op} {inp : Bytes} {out key : Option Bytes} {c h : Int} {ne : Bool}
    (hr : finish d (some p) = .ok (.run op inp out key c h ne)) :
    settingsOk c h = true ∧
    (∀ k, key = some k → k.length = 16) ∧
    (op = .encrypt → out.isSome ∧ 0 ≤ c ∧ c ≤ 4 ∧ 0 ≤ h ∧ h ≤ 2) ∧
    (op = .decrypt → out.isSome ∧ key.isSome) ∧
    (op = .verify → key.isSome) := by
  simp only [finish, pure, Except.pure] at hr
  -- one mode at a time (`split at hr` on the whole of `finish` is slow to check)
  by_cases hu : p.mode = 'u'
  · simp [hu] at hr
  rw [if_neg hu] at hr
  by_cases he : p.mode = 'e'
  · -- encryption: the mode numbers are the defaults or the checked ones
    rw [if_pos he] at hr
    have hc : 0 ≤ (if p.ctype = -1 then 0 else p.ctype) ∧ (if p.ctype = -1 then 0 else p.ctype) ≤ 4 := by
      split <;> omega
    have hh : 0 ≤ (if p.htype = -1 then 0 else p.htype) ∧ (if p.htype = -1 then 0 else p.htype) ≤ 2 := by
      split <;> omega
    generalize (if p.ctype = -1 then 0 else p.ctype) = c' at hr hc
    generalize (if p.htype = -1 then 0 else p.htype) = h' at hr hh
    repeat' split at hr
    all_goals cases hr
    all_goals refine ⟨?_, h3, ?_⟩
    all_goals simp [settingsOk]
    all_goals omega
  rw [if_neg he] at hr
  by_cases hdv : p.mode = 'd' ∨ p.mode = 'v'
  · rw [if_pos hdv] at hr
    repeat' split at hr
    all_goals cases hr
    all_goals simp_all [settingsOk]
    all_goals omega
  · simp [hdv] at hr

theorem getVOpt_run_wf {toks : List Tok} {d : Bool} {op : Op} {inp : Bytes} {out key : Option Bytes} {c h : Int} {ne : Bool}
    (hr : getVOpt toks d = .ok (.run op inp out key c h ne)) :
    settingsOk c h = true ∧
    (∀ k, key = some k → k.length = 16) ∧
    (op = .encrypt → out.isSome ∧ 0 ≤ c ∧ c ≤ 4 ∧ 0 ≤ h ∧ h ≤ 2) ∧
    (op = .decrypt → out.isSome ∧ key.isSome) ∧
    (op = .verify → key.isSome) := by
  rcases getVOpt_ok hr with hd | ⟨p, hp, hf⟩
  · cases hd
  · exact finish_wf hp.ctype hp.htype hp.keylen hf

theorem run_mem_none {t : Tok} {toks : List Tok} (ht : t ∈ toks) (hb : ∀ p, step p t = none) (p : Pak) :
    run p toks = none := by
  induction toks generalizing p with
  | nil => cases ht
  | cons a ts ih =>
    simp only [run]
    rcases List.mem_cons.1 ht with rfl | hm
    · rw [hb]
    · cases step p a with
      | none => rfl
      | some p1 => exact ih hm p1

theorem getVOpt_of_failing {t : Tok} {toks : List Tok} (d : Bool) (ht : t ∈ toks) (hb : ∀ p, step p t = none) :
    getVOpt toks d = .ok .diag := by
  rw [getVOpt_eq_finish, run_mem_none ht hb, finish_none]

theorem default_output (path : Bytes) (d : Bool) :
    getVOpt [.e, .i path true] d =
      .ok (if path.length + 5 < 128 ∧ d then .run .encrypt path (some (path ++ dotWenc)) none 0 0 false else .diag) := by
  rw [getVOpt_eq_finish]
  by_cases hl : path.length + 5 < 128
  · have : (path ++ dotWenc).take 127 = path ++ dotWenc := List.take_of_length_le (by simp [dotWenc]; omega)
    cases d <;> simp [run, step, setMode, Pak.init, finish, hl, this, pure, Except.pure]
  · simp [run, step, setMode, Pak.init, finish, hl, pure, Except.pure]

theorem decrypt_with_printed_key (k : Bytes) (hk : k.length = 16) (inp out : Bytes) (d : Bool) :
    getVOpt [.d, .i inp true, .k (Spec.Base64.encode k), .o out true] d =
      .ok (.run .decrypt inp (some out) (some k) (-1) (-1) false) := by
  have h := Proofs.Base64.printed_key_accepted k hk
  simp [getVOpt, parseAll, parseOpt, setMode, Pak.init, h.1, h.2, bind, Except.bind, pure, Except.pure]

end Wencry.Proofs.Cli

section AxiomCheck
open Wencry.Proofs.Cli
#print axioms getVOpt_eq_finish
#print axioms getVOpt_ok
#print axioms finish_wf
#print axioms getVOpt_run_wf
#print axioms finish_missing
#print axioms getVOpt_of_failing
end AxiomCheck
