/-
The vocabulary every file-level proof shares: a byte string is `joinBlocks bl ++ r` with `r` shorter than a block, in exactly one
way (`exists_blocks`, `splitBlocks_join_rest`); and the padded last block.
-/
import Wencry.Model.IoBuffer
import Wencry.Proofs.Stdio
namespace Wencry.Proofs.Blocks
open Wencry Wencry.Model.Stdio Wencry.Model.IoBuffer

theorem ofListD_toList_append (b : Block) (r : Bytes) : Block.ofListD (b.toList ++ r) = b := by
  cases b; rfl

theorem ofListD_append (a b : Bytes) (h : 16 ≤ a.length) : Block.ofListD (a ++ b) = Block.ofListD a := by
  simp only [Block.ofListD, List.getD_eq_getElem?_getD]
  repeat rw [List.getElem?_append_left (by omega)]

theorem exists_block_append (l : Bytes) (h : 16 ≤ l.length) : ∃ (b : Block) (r : Bytes), l = b.toList ++ r :=
  ⟨Block.ofListD (l.take 16), l.drop 16, by rw [Block.toList_ofListD _ (by simp; omega), List.take_append_drop]⟩

@[simp] theorem joinBlocks_nil : joinBlocks [] = [] := rfl
@[simp] theorem joinBlocks_cons (b : Block) (bl : List Block) : joinBlocks (b :: bl) = b.toList ++ joinBlocks bl := rfl
@[simp] theorem joinBlocks_append (x y : List Block) : joinBlocks (x ++ y) = joinBlocks x ++ joinBlocks y := by
  simp [joinBlocks]
@[simp] theorem joinBlocks_length (bl : List Block) : (joinBlocks bl).length = 16 * bl.length := by
  induction bl with
  | nil => rfl
  | cons b bl ih => simp [ih]; omega
theorem joinBlocks_flatten (xs : List (List Block)) : joinBlocks xs.flatten = (xs.map joinBlocks).flatten := by
  induction xs with
  | nil => rfl
  | cons x xs ih => simp [ih]

theorem splitBlocks_lt (l : Bytes) (h : l.length < 16) : splitBlocks l = ([], l) := by
  rw [splitBlocks]; simp [Nat.not_le.mpr h]

theorem splitBlocks_toList_append (b : Block) (r : Bytes) :
    splitBlocks (b.toList ++ r) = (b :: (splitBlocks r).1, (splitBlocks r).2) := by
  rw [splitBlocks]
  have h : 16 ≤ (b.toList ++ r).length := by simp
  simp only [h, dite_true, ofListD_toList_append]
  cases b; rfl

theorem splitBlocks_joinBlocks_append (bl : List Block) (r : Bytes) :
    splitBlocks (joinBlocks bl ++ r) = (bl ++ (splitBlocks r).1, (splitBlocks r).2) := by
  induction bl with
  | nil => simp
  | cons b bl ih => simp [List.append_assoc, splitBlocks_toList_append, ih]

theorem splitBlocks_join_rest (bl : List Block) (r : Bytes) (h : r.length < 16) : splitBlocks (joinBlocks bl ++ r) = (bl, r) := by
  rw [splitBlocks_joinBlocks_append, splitBlocks_lt r h]; simp

theorem splitBlocks_joinBlocks (bl : List Block) : splitBlocks (joinBlocks bl) = (bl, []) := by
  simpa using splitBlocks_join_rest bl [] (by simp)

theorem exists_blocks (l : Bytes) : ∃ (bl : List Block) (r : Bytes), l = joinBlocks bl ++ r ∧ r.length < 16 := by
  induction hn : l.length using Nat.strongRecOn generalizing l with
  | _ n ih =>
    by_cases h : 16 ≤ l.length
    · obtain ⟨b, r, rfl⟩ := exists_block_append l h
      obtain ⟨bl, r', hr, hlt⟩ := ih r.length (by simp at hn; omega) r rfl
      exact ⟨b :: bl, r', by rw [joinBlocks_cons, List.append_assoc, hr], hlt⟩
    · exact ⟨[], l, rfl, by omega⟩

theorem joinBlocks_splitBlocks (l : Bytes) : joinBlocks (splitBlocks l).1 ++ (splitBlocks l).2 = l := by
  obtain ⟨bl, r, rfl, hr⟩ := exists_blocks l
  rw [splitBlocks_join_rest bl r hr]

theorem splitBlocks_fst_length (l : Bytes) : (splitBlocks l).1.length = l.length / 16 := by
  obtain ⟨bl, r, rfl, hr⟩ := exists_blocks l
  rw [splitBlocks_join_rest bl r hr]; simp; omega

theorem splitBlocks_snd_length (l : Bytes) : (splitBlocks l).2.length = l.length % 16 := by
  obtain ⟨bl, r, rfl, hr⟩ := exists_blocks l
  rw [splitBlocks_join_rest bl r hr]; simp; omega

theorem splitBlocks_append (a b : Bytes) (ha : a.length % 16 = 0) :
    splitBlocks (a ++ b) = ((splitBlocks a).1 ++ (splitBlocks b).1, (splitBlocks b).2) := by
  have hj := joinBlocks_splitBlocks a
  have hr : (splitBlocks a).2 = [] := List.eq_nil_of_length_eq_zero (by rw [splitBlocks_snd_length]; exact ha)
  rw [hr, List.append_nil] at hj
  rw [← hj, splitBlocks_joinBlocks_append, splitBlocks_joinBlocks]

theorem take_joinBlocks_append (bs : List Block) (t : Bytes) (k : Nat) (hk : k ≤ bs.length) :
    (joinBlocks bs ++ t).take (16 * k) = joinBlocks (bs.take k) := by
  conv => lhs; rw [← List.take_append_drop k bs, joinBlocks_append, List.append_assoc]
  exact List.take_left' (by simp; omega)

theorem drop_joinBlocks_append (bs : List Block) (t : Bytes) (k : Nat) (hk : k ≤ bs.length) :
    (joinBlocks bs ++ t).drop (16 * k) = joinBlocks (bs.drop k) ++ t := by
  conv => lhs; rw [← List.take_append_drop k bs, joinBlocks_append, List.append_assoc]
  exact List.drop_left' (by simp; omega)

theorem padBlock_toList (t : Bytes) (ht : t.length ≤ 16) :
    (padBlock t).toList = t ++ List.replicate (16 - t.length) (BitVec.ofNat 8 (16 - t.length)) :=
  Block.toList_ofListD _ (by simp; omega)

theorem padBlock_b15 (t : Bytes) (ht : t.length < 16) : (padBlock t).b15 = BitVec.ofNat 8 (16 - t.length) := by
  have h2 : (padBlock t).toList.getD 15 0 = (padBlock t).b15 := rfl
  rw [← h2, padBlock_toList t (by omega), List.getD_eq_getElem?_getD, List.getElem?_append_right (by omega),
    List.getElem?_replicate, if_pos (by omega)]
  rfl

end Wencry.Proofs.Blocks
