/-
The interactive dialogue (Model/Dialog.lean) answered one answer per line: what each `scanf` conversion and each retry loop of
`get_v_mod1` reads from a line that holds an acceptable answer. `Props/C18` puts them together (the typed seed is the seed).
`IsWord`, `digit` and `scriptE` are the definitions C18's dialogue theorems are stated with.
-/
import Wencry.Model.Dialog
import Wencry.Proofs.Base64Correct
namespace Wencry.Proofs.Dialog
open Wencry Wencry.Model Wencry.Model.Dialog

/-- a token `scanf("%s")` reads back unchanged: non-empty, no white space -/
def IsWord (t : Bytes) : Prop := t ≠ [] ∧ ∀ c ∈ t, isWs c = false

theorem span_stop {α} {p : α → Bool} {t : List α} {x : α} (rest : List α) (h : ∀ c ∈ t, p c = true) (hx : p x = false) :
    (t ++ x :: rest).takeWhile p = t ∧ (t ++ x :: rest).dropWhile p = x :: rest := by
  simp [List.takeWhile_append_of_pos h, List.dropWhile_append_of_pos h, hx]

theorem readTok_word {t pre : Bytes} (rest : Bytes) (ht : IsWord t) (hpre : ∀ c ∈ pre, isWs c = true) :
    readTok (pre ++ t ++ 10 :: rest) = some (t, 10 :: rest) := by
  obtain ⟨hne, hw⟩ := ht
  obtain ⟨a, t, rfl⟩ := List.exists_cons_of_ne_nil hne
  have h1 : ((a :: t) ++ 10 :: rest).dropWhile isWs = (a :: t) ++ 10 :: rest := by
    simp [hw a (by simp)]
  have h2 := span_stop (p := fun c => !isWs c) rest (t := a :: t) (x := 10) (by intro c hc; simp [hw c hc]) (by decide)
  simp only [readTok, List.append_assoc, List.dropWhile_append_of_pos hpre, h1, h2.1, h2.2]
  rfl

def digit (n : Nat) : Bytes := [BitVec.ofNat 8 (48 + n)]

theorem digit_is_decimal : ∀ n : Fin 10, let d : Byte := BitVec.ofNat 8 (48 + n.val)
    isDigit d = true ∧ isWs d = false ∧ d ≠ 45 ∧ d ≠ 43 ∧ d.toNat - 48 = n.val := by decide

theorem readInt_digit {n : Nat} (hn : n < 10) (rest : Bytes) {pre : Bytes} (hpre : ∀ c ∈ pre, isWs c = true) :
    readInt (pre ++ digit n ++ 10 :: rest) = some ((n : Int), 10 :: rest) := by
  obtain ⟨hd, hw, h45, h43, hv⟩ := digit_is_decimal ⟨n, hn⟩
  simp only at hd hw h45 h43 hv
  rw [show digit n = [BitVec.ofNat 8 (48 + n)] from rfl]
  generalize (BitVec.ofNat 8 (48 + n) : Byte) = d at hd hw h45 h43 hv ⊢
  have h1 : (pre ++ [d] ++ 10 :: rest).dropWhile isWs = d :: 10 :: rest := by
    simp [List.dropWhile_append_of_pos hpre, hw]
  have h2 := span_stop (p := isDigit) rest (t := [d]) (x := 10) (by simpa using hd) (by decide)
  simp only [List.cons_append, List.nil_append] at h2
  unfold readInt
  rw [h1]
  simp only []
  rw [if_neg h45, if_neg h43]
  simp only []
  rw [h2.1, h2.2]
  simp [hv]

theorem ws_pre10 : ∀ c ∈ ([10] : Bytes), isWs c = true := by decide

theorem readTok_nl {t : Bytes} (rest : Bytes) (ht : IsWord t) : readTok (10 :: (t ++ 10 :: rest)) = some (t, 10 :: rest) := by
  simpa using readTok_word rest ht ws_pre10

theorem readInt_nl {n : Nat} (hn : n < 10) (rest : Bytes) : readInt (10 :: (digit n ++ 10 :: rest)) = some ((n : Int), 10 :: rest) := by
  simpa using readInt_digit hn rest ws_pre10

theorem readFile_nl {opens : Bytes → Bool} {t : Bytes} (rest : Bytes) (ht : IsWord t) (hl : t.length < 128) (ho : opens t = true) (fuel : Nat) :
    readFile opens (fuel + 1) (10 :: (t ++ 10 :: rest)) = some (t, 10 :: rest) := by
  unfold readFile
  rw [readTok_nl rest ht]
  simp only [ge_iff_le, Nat.not_le.2 hl, if_false, ho, if_true]

theorem readKey_nl {t key : Bytes} (rest : Bytes) (ht : IsWord t) (hl : t.length < 128) (hv : Base64.isValidB64 t = true)
    (hdec : Base64.getArgsKey t = .ok (some key)) (fuel : Nat) :
    readKey (fuel + 1) (10 :: (t ++ 10 :: rest)) = some (key, 10 :: rest) := by
  unfold readKey
  rw [readTok_nl rest ht]
  simp only [ge_iff_le, Nat.not_le.2 hl, if_false, hv, if_true, hdec]

theorem readMode_nl {check : Int → Bool} {n : Nat} (hn : n < 10) (hc : check (n : Int) = true) (rest : Bytes) (fuel : Nat) :
    readMode check (fuel + 1) (10 :: (digit n ++ 10 :: rest)) = some ((n : Int), 10 :: rest) := by
  unfold readMode
  rw [readInt_nl hn rest]
  have h1 : ¬ ((n : Int) < -2147483648 ∨ (n : Int) > 2147483647) := by omega
  simp only [h1, if_false, hc, if_true]

theorem readFlag_n (rest : Bytes) : readFlag (10 :: 110 :: rest) = some (110, rest) := by
  simp [readFlag]

theorem alpha_notWs (c : Byte) (h : Spec.Base64.isAlphabet c = true ∨ c = Base64.eqChar) : isWs c = false := by
  rw [← Proofs.Base64.isBase64_iff] at h
  simp only [Base64.isBase64, Base64.isalnum, Base64.eqChar, Bool.or_eq_true, decide_eq_true_eq, ← BitVec.toNat_inj,
    BitVec.reduceToNat] at h
  simp only [isWs, Bool.or_eq_false_iff, Bool.and_eq_false_imp, decide_eq_false_iff_not, decide_eq_true_eq, ← BitVec.toNat_inj,
    BitVec.reduceToNat]
  omega

theorem key_word {keyText : Bytes} (hkey : Base64.isValidB64 keyText = true) : IsWord keyText ∧ keyText.length < 128 := by
  obtain ⟨body, hb1, hb2, rfl⟩ := (Wencry.Proofs.Base64.isValidB64_iff_body keyText).1 hkey
  refine ⟨⟨by simp, fun c hc => ?_⟩, by simp [hb1]⟩
  simp only [List.mem_append, List.mem_cons, List.not_mem_nil, or_false, or_self] at hc
  exact alpha_notWs c (hc.imp (hb2 c) id)

/-- the dialogue script with single-digit mode numbers (all valid modes are single digits) -/
def scriptE (file keyText : Bytes) (c h : Nat) (seed : Bytes) : Bytes :=
  [101, 10] ++ file ++ [10, 110, 10] ++ keyText ++ [10] ++ digit c ++ [10] ++ digit h ++ [10] ++ seed ++ [10]

/-- non-vacuity: a concrete dialogue (file "a", the key text of sixteen zero bytes, CBC, SHA-1, seed "xy") -/
example : dialogue (fun p => p == [97]) (scriptE [97] (Spec.Base64.encode (List.replicate 16 0)) 1 0 [120, 121]) =
    some { mode := 101, file := [97], key := some (List.replicate 16 0), ctype := 1, htype := 0, seed := some [120, 121], out := some ([97] ++ dot_wenc) } := by
  decide +kernel

end Wencry.Proofs.Dialog

section AxiomCheck
open Wencry.Proofs.Dialog
#print axioms key_word
#print axioms readFile_nl
#print axioms readKey_nl
#print axioms readMode_nl
#print axioms readTok_nl
end AxiomCheck
