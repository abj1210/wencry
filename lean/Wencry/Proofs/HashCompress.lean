/-
For C07: each algorithm record of the model (sha1.cpp / sha256.cpp / md5.cpp) is made of the parts that
FIPS 180-4 / RFC 1321 prescribe: initial value, compression function, length encoding, digest serialisation.
-/
import Wencry.Model.Hash
import Wencry.Spec.Hash
namespace Wencry.Proofs.HashCompress
open Wencry Wencry.Model.Hash

theorem sha256K_eq : Gen.sha256K = Spec.Hash.SHA256.K := by decide +kernel

theorem u8_setbytes0 (a b c d : Byte) : u8 (setbytes a b c d) = a := pack4_byte0 a b c d
theorem u8_setbytes1 (a b c d : Byte) : u8 (setbytes a b c d >>> 8) = b := pack4_byte1 a b c d
theorem u8_setbytes2 (a b c d : Byte) : u8 (setbytes a b c d >>> 16) = c := pack4_byte2 a b c d
theorem u8_setbytes3 (a b c d : Byte) : u8 (setbytes a b c d >>> 24) = d := pack4_byte3 a b c d

-- stated on variables, so that `ac_rfl` does not look into the shifted zero-extensions
theorem or4 (A B C D : W32) : A ||| B ||| C ||| D = D ||| C ||| B ||| A := by ac_rfl

theorem swap_union (a b c d : Byte) : swapWord (unionWord a b c d) = Spec.Hash.be32 a b c d := by
  unfold swapWord unionWord
  rw [u8_setbytes0, u8_setbytes1, u8_setbytes2, u8_setbytes3]
  unfold setbytes Spec.Hash.be32
  exact or4 ..
theorem union_le (a b c d : Byte) : unionWord a b c d = Spec.Hash.le32 a b c d := by
  unfold unionWord setbytes Spec.Hash.le32
  exact or4 ..

theorem map_unionWords {g : W32 → W32} {f : Byte → Byte → Byte → Byte → W32} (h : ∀ a b c d, g (unionWord a b c d) = f a b c d)
    (l : Bytes) : (unionWords l).map g = Spec.Hash.wordsOf f l := by
  fun_induction unionWords l with
  | case1 a b c d r ih => simp only [Spec.Hash.wordsOf, List.map_cons, h, ih]
  | case2 l hl =>
    unfold Spec.Hash.wordsOf
    split
    · exact absurd rfl (hl _ _ _ _ _)
    · rfl

theorem unionWords_swap (l : Bytes) : (unionWords l).map swapWord = Spec.Hash.wordsOf Spec.Hash.be32 l :=
  map_unionWords swap_union l

theorem unionWords_le (l : Bytes) : unionWords l = Spec.Hash.wordsOf Spec.Hash.le32 l := by
  simpa using map_unionWords (g := id) union_le l

theorem lrot_eq (x : W32) (i : Nat) (h : i < 32) : lrot x i = Spec.Hash.rotl x i := by
  unfold lrot Spec.Hash.rotl
  rw [BitVec.rotateLeft_eq_rotateLeftAux_of_lt h]; rfl

theorem rrot_eq (x : W32) (i : Nat) (h : i < 32) : rrot x i = Spec.Hash.rotr x i := by
  unfold rrot Spec.Hash.rotr
  rw [BitVec.rotateRight_eq_rotateRightAux_of_lt h]; rfl

theorem hashA_eq (a b c : W32) : Sha1.HASH_A a b c = Spec.Hash.SHA1.ch a b c := by
  unfold Sha1.HASH_A Spec.Hash.SHA1.ch
  ext i hi; simp only [BitVec.getElem_or, BitVec.getElem_and, BitVec.getElem_xor, BitVec.getElem_not]
  cases a[i] <;> cases b[i] <;> cases c[i] <;> rfl

theorem hashC_eq (a b c : W32) : Sha1.HASH_C a b c = Spec.Hash.SHA1.maj a b c := by
  unfold Sha1.HASH_C Spec.Hash.SHA1.maj
  ext i hi; simp only [BitVec.getElem_or, BitVec.getElem_and, BitVec.getElem_xor]
  cases a[i] <;> cases b[i] <;> cases c[i] <;> rfl

theorem sha1_round_eq : Sha1.round = Spec.Hash.SHA1.step := by
  funext w ⟨t0, t1, t2, t3, t4⟩ i
  -- the code adds the round constant to the round function first, the standard adds it fourth
  have add5 (r f k e w : W32) : r + (f + k) + e + w = r + f + e + k + w := by ac_rfl
  simp only [Sha1.round, Spec.Hash.SHA1.step, Spec.Hash.SHA1.f, Spec.Hash.SHA1.K, lrot_eq _ 5 (by decide), lrot_eq _ 30 (by decide)]
  split
  · rw [hashA_eq, add5]
  · split
    · rw [add5]; rfl
    · split
      · rw [hashC_eq, add5]
      · rw [add5]; rfl

theorem sha1_sched_eq (inp : Bytes) : Sha1.getwdata inp = Spec.Hash.SHA1.schedule (Spec.Hash.wordsOf Spec.Hash.be32 inp) := by
  unfold Sha1.getwdata Spec.Hash.SHA1.schedule
  simp only [unionWords_swap, lrot_eq _ 1 (by decide)]

theorem sha1_block_eq : Sha1.block = Spec.Hash.SHA1.compress := by
  funext h inp
  unfold Sha1.block Spec.Hash.SHA1.compress
  rw [sha1_sched_eq, sha1_round_eq]

theorem sha256_round_eq : Sha256.round = Spec.Hash.SHA256.step := by
  funext w th i
  obtain ⟨h0, h1, h2, h3, h4, h5, h6, h7⟩ := th
  simp only [Sha256.round, Spec.Hash.SHA256.step, Sha256.SIGMA0, Sha256.SIGMA1, Sha256.CHOOSE, Sha256.MAJORITY,
    Spec.Hash.SHA256.bsig0, Spec.Hash.SHA256.bsig1, Spec.Hash.SHA256.ch, Spec.Hash.SHA256.maj, sha256K_eq,
    rrot_eq _ 2 (by decide), rrot_eq _ 13 (by decide), rrot_eq _ 22 (by decide),
    rrot_eq _ 6 (by decide), rrot_eq _ 11 (by decide), rrot_eq _ 25 (by decide)]

theorem sha256_sched_eq (inp : Bytes) : Sha256.getwdata inp = Spec.Hash.SHA256.schedule (Spec.Hash.wordsOf Spec.Hash.be32 inp) := by
  unfold Sha256.getwdata Spec.Hash.SHA256.schedule
  simp only [unionWords_swap, Sha256.GAMMA0, Sha256.GAMMA1, Spec.Hash.SHA256.ssig0, Spec.Hash.SHA256.ssig1,
    rrot_eq _ 7 (by decide), rrot_eq _ 18 (by decide), rrot_eq _ 17 (by decide), rrot_eq _ 19 (by decide)]

theorem sha256_block_eq : Sha256.block = Spec.Hash.SHA256.compress := by
  funext h inp
  unfold Sha256.block Spec.Hash.SHA256.compress
  rw [sha256_sched_eq, sha256_round_eq]

theorem u8_eq (w : W32) : u8 w = w.truncate 8 := rfl
theorem wordBE_eq (w : W32) : wordBE w = Spec.Hash.be32Bytes w := rfl
theorem wordLE_eq (w : W32) : wordLE w = Spec.Hash.le32Bytes w := rfl

theorem shr_trunc (n : W64) (k : Nat) : (n >>> (k <<< 3)).truncate 8 = BitVec.ofNat 8 (n.toNat / 256 ^ k) := by
  rw [shr_truncate8, Nat.shiftLeft_eq, show (256:Nat) = 2 ^ 8 by rfl, ← Nat.pow_mul, Nat.mul_comm]

theorem lenBE_eq (n : W64) : lenBE n = Spec.Hash.be64Bytes n.toNat := by
  unfold lenBE Spec.Hash.be64Bytes
  simp only [shr_trunc]
theorem lenLE_eq (n : W64) : lenLE n = Spec.Hash.le64Bytes n.toNat := by
  unfold lenLE Spec.Hash.le64Bytes
  simp only [shr_trunc]

open Spec.Hash.MD5 in
/-- the `i`-th `FF/GG/HH/II` line as RFC 1321 prescribes it; the four register indices are the RFC's operand
    rotation [ABCD] [DABC] [CDAB] [BCDA] -/
def specLine (i : Nat) : Gen.Md5Line :=
  ⟨i / 16, (4 - i % 4) % 4, (5 - i % 4) % 4, (6 - i % 4) % 4, (7 - i % 4) % 4, Kidx i, S i, T.getD i 0⟩

theorem md5Lines_eq : Gen.md5Lines = (List.range 64).map specLine := by decide +kernel

theorem S_lt (i : Nat) : Spec.Hash.MD5.S i < 32 := by
  unfold Spec.Hash.MD5.S; split <;> decide

/-- the rotating-register state of the specification seen from the fixed registers of the code -/
def view (k : Nat) (m : Md5.St) : Md5.St :=
  match k % 4 with
  | 0 => m
  | 1 => (m.2.2.2, m.1, m.2.1, m.2.2.1)
  | 2 => (m.2.2.1, m.2.2.2, m.1, m.2.1)
  | _ => (m.2.1, m.2.2.1, m.2.2.2, m.1)

theorem md5_sum {a f x t b : W32} {s : Nat} (hs : s < 32) :
    lrot (a + (f + x + t)) s + b = b + Spec.Hash.rotl (a + f + x + t) s := by
  rw [lrot_eq _ _ hs, BitVec.add_comm]
  congr 2
  ac_rfl

theorem md5_step (x : List W32) (m : Md5.St) (i : Nat) :
    Spec.Hash.MD5.step x (view i m) i = view (i + 1) (Md5.line x m (specLine i)) := by
  obtain ⟨a, b, c, d⟩ := m
  have h' : (i + 1) % 4 = (i % 4 + 1) % 4 := by omega
  have : i % 4 = 0 ∨ i % 4 = 1 ∨ i % 4 = 2 ∨ i % 4 = 3 := by omega
  -- the four residues differ only in which register plays `a`
  rcases this with h | h | h | h
  all_goals
    simp [view, h, h', specLine, Md5.line, Md5.reg, Md5.setReg, Spec.Hash.MD5.step, Spec.Hash.MD5.fn, md5_sum (S_lt i)]
    rfl

theorem md5_fold (x : List W32) (h : Md5.St) (n : Nat) :
    (List.range n).foldl (Spec.Hash.MD5.step x) h
      = view n ((List.range n).foldl (fun st i => Md5.line x st (specLine i)) h) := by
  induction n with
  | zero => rfl
  | succ n ih => rw [List.range_succ, List.foldl_append, List.foldl_append, ih]; exact md5_step ..

theorem md5_lines_fold (x : List W32) (h : Md5.St) :
    Gen.md5Lines.foldl (Md5.line x) h = (List.range 64).foldl (Spec.Hash.MD5.step x) h := by
  rw [md5_fold, md5Lines_eq, List.foldl_map]
  rfl

theorem md5_block_eq : Md5.block = Spec.Hash.MD5.compress := by
  funext h inp
  unfold Md5.block Spec.Hash.MD5.compress
  rw [unionWords_le]
  conv => zeta
  -- `rw`, not `simp only`: `simp` would bring the `match` on the fold over the 64 concrete lines to `whnf`, which runs the 64 steps
  -- symbolically (so does `show`, or the kernel when it compares two such matches)
  rw [md5_lines_fold]

theorem sha1_res_eq : Sha1.res = Spec.Hash.SHA1.digestBytes := by
  funext h; simp only [Sha1.res, Spec.Hash.SHA1.digestBytes, wordBE_eq]
theorem sha256_res_eq : Sha256.res = Spec.Hash.SHA256.digestBytes := by
  funext h; simp only [Sha256.res, Spec.Hash.SHA256.digestBytes, wordBE_eq]
theorem md5_res_eq : Md5.res = Spec.Hash.MD5.digestBytes := by
  funext h; simp only [Md5.res, Spec.Hash.MD5.digestBytes, wordLE_eq]

-- in the three proofs below the closing `rfl` is the fourth part: the generated initial words are the standard's `H0`

open Spec.Hash in
theorem sha1_alg_eq : Sha1.alg = ⟨SHA1.H0, SHA1.compress, fun n => be64Bytes n.toNat, SHA1.digestBytes⟩ := by
  rw [Sha1.alg, sha1_block_eq, funext lenBE_eq, sha1_res_eq]; rfl

open Spec.Hash in
theorem sha256_alg_eq : Sha256.alg = ⟨SHA256.H0, SHA256.compress, fun n => be64Bytes n.toNat, SHA256.digestBytes⟩ := by
  rw [Sha256.alg, sha256_block_eq, funext lenBE_eq, sha256_res_eq]; rfl

open Spec.Hash in
theorem md5_alg_eq : Md5.alg = ⟨MD5.H0, MD5.compress, fun n => le64Bytes n.toNat, MD5.digestBytes⟩ := by
  rw [Md5.alg, md5_block_eq, funext lenLE_eq, md5_res_eq]; rfl

end Wencry.Proofs.HashCompress
