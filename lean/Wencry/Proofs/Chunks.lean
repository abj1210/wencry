/-
`Spec.Wenc.chunksOf` obeys the plain recursion `l.take B :: chunksOf B (l.drop B)` (its fuel is immaterial), and
`Spec.Wenc.pkcs7` of `joinBlocks bs ++ t` is `joinBlocks (bs ++ [padBlock t])`: the specification's chunking and padding in the
terms the model's `load_buffer` produces them.
-/
import Wencry.Spec.Wenc
import Wencry.Proofs.Blocks
namespace Wencry.Proofs.Chunks
open Wencry Wencry.Model.IoBuffer Wencry.Spec.Wenc Wencry.Proofs.Blocks

theorem chunksOf_go_nil (B n : Nat) : chunksOf.go B n [] = [] := by
  cases n <;> simp [chunksOf.go]

theorem chunksOf_go_fuel {B : Nat} (hB : 1 ≤ B) : ∀ (n m : Nat) (l : List Block), l.length ≤ n → l.length ≤ m →
    chunksOf.go B n l = chunksOf.go B m l := by
  intro n
  induction n with
  | zero =>
    intro m l hn _
    obtain rfl : l = [] := List.eq_nil_of_length_eq_zero (by omega)
    rw [chunksOf_go_nil, chunksOf_go_nil]
  | succ n ih =>
    intro m l hn hm
    cases l with
    | nil => rw [chunksOf_go_nil, chunksOf_go_nil]
    | cons a l =>
      obtain ⟨m, rfl⟩ : ∃ k, m = k + 1 := ⟨m - 1, by simp at hm; omega⟩
      simp only [chunksOf.go, List.isEmpty_cons, Bool.false_eq_true, if_false]
      rw [ih m _ (by simp at hn ⊢; omega) (by simp at hm ⊢; omega)]

@[simp] theorem chunksOf_nil (B : Nat) : chunksOf B [] = [] := rfl

theorem chunksOf_cons {B : Nat} (hB : 1 ≤ B) (l : List Block) (h : l ≠ []) :
    chunksOf B l = l.take B :: chunksOf B (l.drop B) := by
  cases l with
  | nil => exact absurd rfl h
  | cons a l =>
    simp only [chunksOf, List.length_cons, chunksOf.go, List.isEmpty_cons, Bool.false_eq_true, if_false]
    rw [chunksOf_go_fuel hB _ _ _ (by simp; omega) (Nat.le_refl _)]

theorem chunksOf_append {B : Nat} (hB : 1 ≤ B) (c r : List Block) (hc : c.length = B) : chunksOf B (c ++ r) = c :: chunksOf B r := by
  rw [chunksOf_cons hB _ (List.ne_nil_of_length_pos (by simp; omega)), List.take_left' hc, List.drop_left' hc]

theorem chunksOf_short {B : Nat} (hB : 1 ≤ B) (c : List Block) (h0 : c ≠ []) (hc : c.length ≤ B) : chunksOf B c = [c] := by
  rw [chunksOf_cons hB c h0, List.take_of_length_le hc, List.drop_of_length_le hc, chunksOf_nil]

theorem flatten_chunksOf {B : Nat} (hB : 1 ≤ B) (l : List Block) : (chunksOf B l).flatten = l := by
  induction hn : l.length using Nat.strongRecOn generalizing l with
  | _ n ih =>
    by_cases h : l = []
    · subst h; rfl
    · have hpos : 0 < l.length := List.length_pos_iff.mpr h
      rw [chunksOf_cons hB l h, List.flatten_cons, ih _ (by simp; omega) _ rfl, List.take_append_drop]

theorem chunksOf_full {B : Nat} (hB : 1 ≤ B) (l : List Block) : ∀ j, j + 1 < (chunksOf B l).length →
    ((chunksOf B l).getD j []).length = B := by
  induction hn : l.length using Nat.strongRecOn generalizing l with
  | _ n ih =>
    intro j hj
    by_cases h : l = []
    · subst h; simp at hj
    · have hpos : 0 < l.length := List.length_pos_iff.mpr h
      rw [chunksOf_cons hB l h] at hj ⊢
      by_cases hX : B < l.length
      · cases j with
        | zero => simp; omega
        | succ j => simpa using ih _ (by simp only [List.length_drop]; omega) (l.drop B) rfl j (by simpa using hj)
      · rw [List.drop_of_length_le (by omega)] at hj; simp at hj

/-- `h`: the chunks have length `B`, the last `1..B`; `bl` occurs nowhere else -/
theorem chunksOf_flatten {B : Nat} (hB : 1 ≤ B) (os : List (List Block)) (bl : List Block)
    (h : os.map List.length = (chunksOf B bl).map List.length) : chunksOf B os.flatten = os := by
  induction hn : bl.length using Nat.strongRecOn generalizing bl os with
  | _ n ih =>
    by_cases hbl : bl = []
    · subst hbl
      obtain rfl : os = [] := by simpa using h
      rfl
    · have hpos : 0 < bl.length := List.length_pos_iff.mpr hbl
      rw [chunksOf_cons hB bl hbl] at h
      obtain ⟨o, os', rfl, ho, hos⟩ := List.map_eq_cons_iff.mp h
      rw [List.length_take] at ho
      rw [List.flatten_cons]
      by_cases hX : B < bl.length
      · rw [chunksOf_append hB o _ (by omega), ih _ (by simp only [List.length_drop]; omega) os' (bl.drop B) hos rfl]
      · rw [List.drop_of_length_le (by omega)] at hos
        obtain rfl : os' = [] := by simpa using hos
        rw [List.flatten_nil, List.append_nil]
        exact chunksOf_short hB o (List.ne_nil_of_length_pos (by omega)) (by omega)

theorem pkcs7_length (d : Bytes) : (pkcs7 d).length = 16 * (d.length / 16 + 1) := by
  simp [pkcs7]; omega

theorem pkcs7_split (d : Bytes) (n : Nat) (h : 16 * n ≤ d.length) : pkcs7 d = d.take (16 * n) ++ pkcs7 (d.drop (16 * n)) := by
  have e : (d.length - 16 * n) % 16 = d.length % 16 := by omega
  simp only [pkcs7, List.length_drop, e, ← List.append_assoc, List.take_append_drop]

theorem pkcs7_join (bs : List Block) (t : Bytes) (ht : t.length < 16) :
    pkcs7 (joinBlocks bs ++ t) = joinBlocks (bs ++ [padBlock t]) := by
  have e : (joinBlocks bs ++ t).length % 16 = t.length := by simp; omega
  rw [pkcs7, e, joinBlocks_append, joinBlocks_cons, padBlock_toList t (by omega)]
  simp

theorem pkcs7_blocks (d : Bytes) : (splitBlocks (pkcs7 d)).1 = (splitBlocks d).1 ++ [padBlock (splitBlocks d).2] := by
  obtain ⟨bl, r, rfl, hr⟩ := exists_blocks d
  rw [pkcs7_join bl r hr, splitBlocks_joinBlocks, splitBlocks_join_rest bl r hr]

end Wencry.Proofs.Chunks
