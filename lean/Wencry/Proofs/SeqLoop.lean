/-
The sequential pipeline `IoBuffer.seqLoop` is a fold of `fwrite` over the exports of the chunks it loads (`seqLoop_eq`), chunk `j`
transformed by stream `j % T`. For an input that holds a block list `X` (`Holds`) the chunks are `chunksOf B X`, and what is written
is `joinBlocks`, resp. `unpad`, of the transformed blocks (`seqPipeline_holds`).
-/
import Wencry.Proofs.ModesCorrect
import Wencry.Proofs.Chunks

-- namespace `Roundtrip`: `unpad_pad` (below) and `seqLoop_enc`, `seqLoop_dec` (Proofs/Roundtrip.lean), lemmas of C01, are stated with `unpad`, `OutIs` under this name
namespace Wencry.Proofs.Roundtrip
open Wencry Wencry.Model.Stdio Wencry.Model.IoBuffer Wencry.Model.Modes Wencry.Proofs.Modes Wencry.Proofs.Stdio Wencry.Proofs.Blocks Wencry.Proofs.Chunks

/-- the `padding` of `exportBytes` on the decrypt side -/
def padOf (D : List Block) : Nat :=
  let padding : Nat := if D.length = 0 then 0 else (lastByteOf D (D.length - 1)).toNat
  if padding > 16 then 0 else padding

def unpad (D : List Block) : Bytes := (joinBlocks D).take (16 * D.length - padOf D)

theorem padOf_le (D : List Block) : padOf D ≤ 16 := by
  unfold padOf; simp only; split <;> split <;> omega

theorem padOf_append (A D : List Block) (hD : D ≠ []) : padOf (A ++ D) = padOf D := by
  have hpos : 0 < D.length := List.length_pos_iff.mpr hD
  have hl : lastByteOf (A ++ D) ((A ++ D).length - 1) = lastByteOf D (D.length - 1) := by
    unfold lastByteOf
    simp only [List.getD_eq_getElem?_getD, List.length_append]
    rw [List.getElem?_append_right (by omega)]
    congr 3; omega
  have h1 : (A ++ D).length ≠ 0 := by simp only [List.length_append]; omega
  have h2 : D.length ≠ 0 := by omega
  simp only [padOf, hl, if_neg h1, if_neg h2]

theorem unpad_append (A D : List Block) (hD : D ≠ []) : unpad (A ++ D) = joinBlocks A ++ unpad D := by
  have hpos : 0 < D.length := List.length_pos_iff.mpr hD
  have hp16 := padOf_le D
  unfold unpad
  rw [padOf_append A D hD, joinBlocks_append, List.take_append, joinBlocks_length,
    List.take_of_length_le (by rw [joinBlocks_length]; simp only [List.length_append]; omega)]
  congr 2; simp only [List.length_append]; omega

theorem unpad_pad (bs : List Block) (t : Bytes) (ht : t.length < 16) : unpad (bs ++ [padBlock t]) = joinBlocks bs ++ t := by
  have hp : padOf [padBlock t] = 16 - t.length := by
    have e : (16 - t.length) % 2 ^ 8 = 16 - t.length := by omega
    simp only [padOf, lastByteOf, List.length_singleton, Nat.sub_self, List.getD_eq_getElem?_getD, List.getElem?_cons_zero,
      Option.getD_some, padBlock_b15 t ht, BitVec.toNat_ofNat, e, Nat.succ_ne_zero, if_false]
    rw [if_neg (by omega)]
  rw [unpad_append _ _ (by simp)]
  congr 1
  have e2 : 16 * [padBlock t].length - (16 - t.length) = t.length := by simp; omega
  rw [unpad, hp, e2, joinBlocks_cons, joinBlocks_nil, List.append_nil, padBlock_toList t (by omega), List.take_left' rfl]

theorem unpad_pkcs7 (d : Bytes) : unpad (splitBlocks (Spec.Wenc.pkcs7 d)).1 = d := by
  obtain ⟨bs, t, rfl, ht⟩ := exists_blocks d
  rw [pkcs7_join bs t ht, splitBlocks_joinBlocks, unpad_pad bs t ht]

/-- `pos` too, so that further writes append -/
def OutIs (r : List Stream × RFile × WFile) (d : Bytes) : Prop := r.2.2.data = d ∧ r.2.2.pos = d.length

/-- `Modes.InSync` position by position: what survives dealing a chunk to stream `j % T` on both sides -/
def AllSync (sse ssd : List Stream) : Prop :=
  ∀ (i : Nat) (se sd : Stream), sse[i]? = some se → ssd[i]? = some sd → InSync se sd

theorem AllSync_set {sse ssd : List Stream} (h : AllSync sse ssd) (k : Nat) {se sd : Stream}
    (hsync : InSync se sd) : AllSync (sse.set k se) (ssd.set k sd) := by
  intro i se' sd' h1 h2
  rw [List.getElem?_set] at h1 h2
  by_cases hk : k = i
  · simp only [hk, if_true] at h1 h2
    split at h1
    · split at h2
      · simp only [Option.some.injEq] at h1 h2; subst h1; subst h2; exact hsync
      · simp at h2
    · simp at h1
  · simp only [hk, if_false] at h1 h2
    exact h i se' sd' h1 h2

end Wencry.Proofs.Roundtrip

namespace Wencry.Proofs.SeqLoop
open Wencry Wencry.Model.Stdio Wencry.Model.IoBuffer Wencry.Model.Modes Wencry.Proofs.Modes Wencry.Proofs.Stdio Wencry.Proofs.Blocks Wencry.Proofs.Chunks Wencry.Spec.Wenc
open Wencry.Proofs.Roundtrip

def runChunks (T : Nat) : Nat → List Stream → List (List Block) → List (List Block)
  | _, _, [] => []
  | j, ss, c :: cs =>
    match ss[j % T]? with
    | none => []
    | some s => (s.run c).2 :: runChunks T (j + 1) (ss.set (j % T) (s.run c).1) cs

theorem getElem?_mod_some {T : Nat} (j : Nat) (hT : 1 ≤ T) {ss : List Stream} (h : ss.length = T) : ∃ s, ss[j % T]? = some s :=
  ⟨ss[j % T]'(by rw [h]; exact Nat.mod_lt _ (by omega)), List.getElem?_eq_getElem _⟩

theorem runChunks_lengths {T : Nat} (hT : 1 ≤ T) : ∀ (cs : List (List Block)) (j : Nat) {ss : List Stream}, ss.length = T →
    (runChunks T j ss cs).map List.length = cs.map List.length := by
  intro cs
  induction cs with
  | nil => intros; rfl
  | cons c cs ih =>
    intro j ss hss
    obtain ⟨s, hs⟩ := getElem?_mod_some j hT hss
    simp only [runChunks, hs, List.map_cons, run_length]
    rw [ih _ (by simp [hss])]

theorem runChunks_flatten_length {T : Nat} (hT : 1 ≤ T) (cs : List (List Block)) (j : Nat) {ss : List Stream} (hss : ss.length = T) :
    (runChunks T j ss cs).flatten.length = cs.flatten.length := by
  rw [List.length_flatten, List.length_flatten, runChunks_lengths hT cs j hss]

theorem runChunks_sync {T : Nat} (hT : 1 ≤ T) :
    ∀ (cs : List (List Block)) (j : Nat) {sse ssd : List Stream}, sse.length = T → ssd.length = T → AllSync sse ssd →
      runChunks T j ssd (runChunks T j sse cs) = cs := by
  intro cs
  induction cs with
  | nil => intros; rfl
  | cons c cs ih =>
    intro j sse ssd hse hsd hsync
    obtain ⟨se, hse'⟩ := getElem?_mod_some j hT hse
    obtain ⟨sd, hsd'⟩ := getElem?_mod_some j hT hsd
    have hr := sync_run (hsync _ _ _ hse' hsd') c
    simp only [runChunks, hse', hsd']
    rw [hr.1, ih _ (by simp [hse]) (by simp [hsd]) (AllSync_set hsync _ hr.2)]

def blkLoop (T B j : Nat) (ss : List Stream) (bl : List Block) : List Block := (runChunks T j ss (chunksOf B bl)).flatten

theorem blkLoop_length {T B : Nat} (hT : 1 ≤ T) (hB : 1 ≤ B) (bl : List Block) (j : Nat) {ss : List Stream} (hss : ss.length = T) :
    (blkLoop T B j ss bl).length = bl.length := by
  rw [blkLoop, runChunks_flatten_length hT _ j hss, flatten_chunksOf hB]

theorem blkLoop_sync {T B : Nat} (hT : 1 ≤ T) (hB : 1 ≤ B) (bl : List Block) (j : Nat) {sse ssd : List Stream}
    (hse : sse.length = T) (hsd : ssd.length = T) (hsync : AllSync sse ssd) : blkLoop T B j ssd (blkLoop T B j sse bl) = bl := by
  rw [blkLoop, blkLoop, chunksOf_flatten hB _ bl (runChunks_lengths hT _ j hse), runChunks_sync hT _ j hse hsd hsync,
    flatten_chunksOf hB]

def exportOf (ispad : Bool) (o : List Block) (st : LSt) : Bytes :=
  exportBytes { blocks := o, total := o.length, now := o.length, tail := 0, isfinal := decide (st = .final) } ispad

theorem exportBytes_eq {o : List Block} {total now tail : Nat} {isfinal : Bool} (ispad : Bool) {st : LSt} (h1 : now = o.length)
    (h2 : isfinal = decide (st = .final)) :
    exportBytes { blocks := o, total := total, now := now, tail := tail, isfinal := isfinal } ispad = exportOf ispad o st := by
  simp only [exportOf, exportBytes, h1, h2]

theorem exportBytes_nonfinal (buf : IoBuf) (ispad : Bool) (h : buf.isfinal = false) : exportBytes buf ispad = joinBlocks buf.blocks := by
  simp [exportBytes, h]

theorem exportBytes_enc (buf : IoBuf) (h : buf.now = buf.blocks.length) : exportBytes buf true = joinBlocks buf.blocks := by
  unfold exportBytes
  split
  · simp only [Bool.true_or, if_true, h, List.take_length]
    exact List.take_of_length_le (by simp)
  · rfl

theorem exportBytes_dec_final (buf : IoBuf) (hf : buf.isfinal = true) (h : buf.now = buf.blocks.length) :
    exportBytes buf false = unpad buf.blocks := by
  simp [exportBytes, unpad, padOf, hf, h]

theorem exportOf_full (ispad : Bool) (o : List Block) : exportOf ispad o .full = joinBlocks o :=
  exportBytes_nonfinal _ ispad (by simp)

def written (ispad : Bool) (X : List Block) : Bytes := if ispad then joinBlocks X else unpad X

theorem written_true (X : List Block) : written true X = joinBlocks X := rfl
theorem written_false (X : List Block) : written false X = unpad X := rfl

theorem exportOf_final_eq (ispad : Bool) (o : List Block) : exportOf ispad o .final = written ispad o := by
  cases ispad
  · exact exportBytes_dec_final _ (by simp) rfl
  · exact exportBytes_enc _ rfl

theorem written_append (ispad : Bool) (A D : List Block) (hD : D ≠ []) : written ispad (A ++ D) = joinBlocks A ++ written ispad D := by
  cases ispad
  · exact unpad_append A D hD
  · exact joinBlocks_append A D

/-- `loadBuffer` on a fresh buffer with its pattern-matching `let`s spelled out -/
theorem loadBuffer_eq (B : Nat) (fin : RFile) (ispad : Bool) :
    loadBuffer B fin ispad IoBuf.new =
      let got := (fin.data.drop fin.pos).take (16 * B)
      let fin1 : RFile := { fin with pos := fin.pos + got.length, eof := fin.eof || decide (got.length < 16 * B) }
      let fr : RFile × Bool := if !ispad && !fin1.eof then fin1.peekEof else (fin1, fin1.eof)
      let whole := (splitBlocks got).1
      let rest := (splitBlocks got).2
      if ispad && got.length ≠ 16 * B then
        (fr.1, { blocks := whole ++ [padBlock rest], total := got.length / 16 + 1, now := 0, tail := got.length % 16, isfinal := true }, .final)
      else if !ispad && fr.2 then
        if got.length / 16 = 0 then (fr.1, { blocks := whole, total := got.length / 16, now := 0, tail := got.length % 16, isfinal := false }, .nodata)
        else (fr.1, { blocks := whole, total := got.length / 16, now := 0, tail := got.length % 16, isfinal := true }, .final)
      else (fr.1, { blocks := whole, total := got.length / 16, now := 0, tail := got.length % 16, isfinal := false }, if got.length = 0 then .nodata else .full) := by
  rfl

theorem loadBuffer_buf (B : Nat) (fin : RFile) (ispad : Bool) :
    (loadBuffer B fin ispad IoBuf.new).2.1.total = (loadBuffer B fin ispad IoBuf.new).2.1.blocks.length ∧
    (loadBuffer B fin ispad IoBuf.new).2.1.isfinal = decide ((loadBuffer B fin ispad IoBuf.new).2.2 = .final) := by
  rw [loadBuffer_eq]
  have hsp := splitBlocks_fst_length ((fin.data.drop fin.pos).take (16 * B))
  generalize (fin.data.drop fin.pos).take (16 * B) = got at hsp
  simp only
  repeat' split
  all_goals simp [hsp]

def loads (B : Nat) (ispad : Bool) : Nat → RFile → List (List Block × LSt)
  | 0, _ => []
  | n + 1, fin =>
    match (loadBuffer B fin ispad IoBuf.new).2.2 with
    | .nodata => []
    | .final => [((loadBuffer B fin ispad IoBuf.new).2.1.blocks, .final)]
    | .full => ((loadBuffer B fin ispad IoBuf.new).2.1.blocks, .full) :: loads B ispad n (loadBuffer B fin ispad IoBuf.new).1

def exports (T B : Nat) (ispad : Bool) (fuel j : Nat) (ss : List Stream) (fin : RFile) : List Bytes :=
  List.zipWith (exportOf ispad) (runChunks T j ss ((loads B ispad fuel fin).map (·.1))) ((loads B ispad fuel fin).map (·.2))

theorem seqLoop_eq (T B : Nat) (ispad : Bool) : ∀ (fuel j : Nat) (ss : List Stream) (fin : RFile) (fout : WFile),
    (seqLoop T B ispad fuel j ss fin fout).2.2 = (exports T B ispad fuel j ss fin).foldl WFile.fwrite fout := by
  intro fuel
  induction fuel with
  | zero => intros; rfl
  | succ fuel ih =>
    intro j ss fin fout
    obtain ⟨htot, hfin⟩ := loadBuffer_buf B fin ispad
    unfold exports at ih ⊢
    unfold seqLoop loads
    generalize loadBuffer B fin ispad IoBuf.new = r at htot hfin
    obtain ⟨fin', buf, st⟩ := r
    simp only at htot hfin
    cases st with
    | nodata => rfl
    | final =>
      cases hs : ss[j % T]? with
      | none => simp only [List.map_cons, List.map_nil, runChunks, hs, List.zipWith_nil_left, List.foldl_nil]
      | some s =>
        simp only [List.map_cons, List.map_nil, runChunks, hs, List.zipWith_cons_cons, List.zipWith_nil_left, List.foldl_cons,
          List.foldl_nil, reduceCtorEq, if_false]
        rw [exportBytes_eq ispad (by simp only [run_length, htot]) hfin]
    | full =>
      cases hs : ss[j % T]? with
      | none => simp only [List.map_cons, runChunks, hs, List.zipWith_nil_left, List.foldl_nil]
      | some s =>
        simp only [List.map_cons, runChunks, hs, List.zipWith_cons_cons, List.foldl_cons, if_true, ih, setAt]
        rw [exportBytes_eq ispad (by simp only [run_length, htot]) hfin]

theorem seqPipeline_eq (T B : Nat) (ispad : Bool) (ss : List Stream) (fin : RFile) (fout : WFile) :
    (seqPipeline T B ispad ss fin fout).2.2 = (exports T B ispad (fin.remaining / (16 * B) + 2) 0 ss fin).foldl WFile.fwrite fout :=
  seqLoop_eq ..

/-- the unread part of `fin` is a plaintext whose padded blocks are `X`, or a ciphertext body `joinBlocks X` -/
def Holds : Bool → RFile → List Block → Prop
  | true, fin, X => ∃ bs t, fin.data.drop fin.pos = joinBlocks bs ++ t ∧ t.length < 16 ∧ X = bs ++ [padBlock t]
  | false, fin, X => fin.eof = false ∧ fin.data.drop fin.pos = joinBlocks X ∧ X ≠ []

theorem Holds.ne_nil {ispad : Bool} {fin : RFile} {X : List Block} (h : Holds ispad fin X) : X ≠ [] := by
  cases ispad
  · exact h.2.2
  · obtain ⟨bs, t, -, -, rfl⟩ := h; simp

theorem holds_pkcs7 (fin : RFile) : Holds true fin (splitBlocks (pkcs7 (fin.data.drop fin.pos))).1 := by
  obtain ⟨bs, t, hd, ht⟩ := exists_blocks (fin.data.drop fin.pos)
  exact ⟨bs, t, hd, ht, by rw [hd, pkcs7_join bs t ht, splitBlocks_joinBlocks]⟩

theorem holds_open (plain : Bytes) : Holds true (RFile.open plain) (splitBlocks (pkcs7 plain)).1 := holds_pkcs7 (RFile.open plain)

theorem load_full {B : Nat} (hB : 1 ≤ B) {ispad : Bool} {fin : RFile} {X : List Block} (h : Holds ispad fin X) (hX : B < X.length) :
    (loadBuffer B fin ispad IoBuf.new).2.2 = .full ∧ (loadBuffer B fin ispad IoBuf.new).2.1.blocks = X.take B ∧
      Holds ispad (loadBuffer B fin ispad IoBuf.new).1 (X.drop B) := by
  have hne : 16 * B ≠ 0 := by omega
  have hdiv : 16 * B / 16 = B := by omega
  cases ispad
  · obtain ⟨heof, hd, -⟩ := h
    have hgot : (fin.data.drop fin.pos).take (16 * B) = joinBlocks (X.take B) := by
      have := take_joinBlocks_append X [] B (by omega)
      rw [List.append_nil] at this
      rw [hd, this]
    have hl : (joinBlocks (X.take B)).length = 16 * B := by
      rw [joinBlocks_length, List.length_take, Nat.min_eq_left (by omega)]
    have hlen2 : fin.data.length - fin.pos = 16 * X.length := by rw [← List.length_drop, hd, joinBlocks_length]
    have hlt : fin.pos + 16 * B < fin.data.length := by omega
    have hdd : fin.data.drop (fin.pos + 16 * B) = joinBlocks (X.drop B) := by
      rw [← List.drop_drop, hd]; simpa using drop_joinBlocks_append X [] B (by omega)
    rw [loadBuffer_eq]
    simp only [hgot, hl, heof, splitBlocks_joinBlocks, RFile.peekEof]
    simp [hne, hdiv, hlt, Holds, hdd]
    exact hX
  · obtain ⟨bs, t, hd, ht, rfl⟩ := h
    have hlen : B ≤ bs.length := by simp at hX; omega
    have hgot : (fin.data.drop fin.pos).take (16 * B) = joinBlocks (bs.take B) := by
      rw [hd, take_joinBlocks_append bs t B hlen]
    have hl : (joinBlocks (bs.take B)).length = 16 * B := by
      rw [joinBlocks_length, List.length_take, Nat.min_eq_left hlen]
    have hdd : fin.data.drop (fin.pos + 16 * B) = joinBlocks (bs.drop B) ++ t := by
      rw [← List.drop_drop, hd, drop_joinBlocks_append bs t B hlen]
    rw [loadBuffer_eq]
    simp only [hgot, hl, splitBlocks_joinBlocks]
    simp [hne, hdiv, List.take_append_of_le_length hlen, List.drop_append_of_le_length hlen]
    exact ⟨bs.drop B, t, hdd, ht, rfl⟩

theorem load_final {B : Nat} {ispad : Bool} {fin : RFile} {X : List Block} (h : Holds ispad fin X) (hX : X.length ≤ B) :
    (loadBuffer B fin ispad IoBuf.new).2.2 = .final ∧ (loadBuffer B fin ispad IoBuf.new).2.1.blocks = X := by
  cases ispad
  · obtain ⟨heof, hd, hne⟩ := h
    have hpos : 0 < X.length := List.length_pos_iff.mpr hne
    have hgot : (fin.data.drop fin.pos).take (16 * B) = joinBlocks X := by
      rw [hd]; exact List.take_of_length_le (by simp; omega)
    have hlen2 : fin.data.length - fin.pos = 16 * X.length := by rw [← List.length_drop, hd, joinBlocks_length]
    have hdiv : 16 * X.length / 16 = X.length := by omega
    have hn0 : X.length ≠ 0 := by omega
    rw [loadBuffer_eq]
    simp only [hgot, joinBlocks_length, heof, splitBlocks_joinBlocks]
    by_cases hlt : X.length < B
    · have h1 : 16 * X.length < 16 * B := by omega
      simp [h1, hdiv, hn0]
    · -- the body is a whole number of chunks: the read is full, and it is the look-ahead of repair F3 (`peekEof`) that makes it FINAL
      obtain rfl : X.length = B := by omega
      have h2 : fin.data.length ≤ fin.pos + 16 * X.length := by omega
      simp [peekEof_snd, h2, hdiv, hn0]
  · obtain ⟨bs, t, hd, ht, rfl⟩ := h
    have hlen : bs.length < B := by simp at hX; omega
    have hgot : (fin.data.drop fin.pos).take (16 * B) = joinBlocks bs ++ t := by
      rw [hd]; exact List.take_of_length_le (by simp; omega)
    have hne : 16 * bs.length + t.length ≠ 16 * B := by omega
    rw [loadBuffer_eq]
    simp only [hgot, List.length_append, joinBlocks_length, splitBlocks_join_rest bs t ht]
    simp [hne]

theorem loads_full {B : Nat} {ispad : Bool} (n : Nat) {fin : RFile} (h : (loadBuffer B fin ispad IoBuf.new).2.2 = .full) :
    loads B ispad (n + 1) fin =
      ((loadBuffer B fin ispad IoBuf.new).2.1.blocks, .full) :: loads B ispad n (loadBuffer B fin ispad IoBuf.new).1 := by
  rw [loads]; simp only [h]

theorem loads_nodata {B : Nat} {ispad : Bool} (n : Nat) {fin : RFile} (h : (loadBuffer B fin ispad IoBuf.new).2.2 = .nodata) :
    loads B ispad (n + 1) fin = [] := by
  rw [loads]; simp only [h]

theorem loads_final {B : Nat} {ispad : Bool} (n : Nat) {fin : RFile} (h : (loadBuffer B fin ispad IoBuf.new).2.2 = .final) :
    loads B ispad (n + 1) fin = [((loadBuffer B fin ispad IoBuf.new).2.1.blocks, .final)] := by
  rw [loads]; simp only [h]

/-- while more than `B` blocks are left a load is FULL and takes the first `B`, the input goes on holding the rest, and as that rest
    is not empty only it is unpadded (`written_append`); the load of the last `1..B` blocks is FINAL -/
theorem exports_holds {T B : Nat} (hT : 1 ≤ T) (hB : 1 ≤ B) {ispad : Bool} :
    ∀ (fuel j : Nat) {ss : List Stream} {fin : RFile} {X : List Block}, ss.length = T → Holds ispad fin X → X.length ≤ B * fuel →
      (exports T B ispad fuel j ss fin).flatten = written ispad (blkLoop T B j ss X) := by
  intro fuel
  induction fuel with
  | zero =>
    intro j ss fin X _ h hf
    exact absurd (List.eq_nil_of_length_eq_zero (by omega)) h.ne_nil
  | succ fuel ih =>
    intro j ss fin X hss h hf
    obtain ⟨s, hs⟩ := getElem?_mod_some j hT hss
    unfold exports at ih ⊢
    by_cases hX : B < X.length
    · obtain ⟨hst, hb, hrest⟩ := load_full hB h hX
      have hR : (runChunks T (j + 1) (ss.set (j % T) (s.run (X.take B)).1) (chunksOf B (X.drop B))).flatten ≠ [] := by
        apply List.ne_nil_of_length_pos
        rw [runChunks_flatten_length hT _ _ (by simp [hss]), flatten_chunksOf hB]
        simp only [List.length_drop]; omega
      rw [loads_full fuel hst, hb, blkLoop, chunksOf_cons hB X h.ne_nil]
      simp only [List.map_cons, runChunks, hs, List.zipWith_cons_cons, List.flatten_cons, exportOf_full]
      rw [ih (j + 1) (by simp [hss]) hrest (by simp only [List.length_drop]; rw [Nat.mul_add] at hf; omega), blkLoop,
        written_append _ _ _ hR]
    · obtain ⟨hst, hb⟩ := load_final h (Nat.le_of_not_lt hX)
      rw [loads_final fuel hst, hb, blkLoop, chunksOf_short hB X h.ne_nil (by omega)]
      simp [runChunks, hs, exportOf_final_eq]

theorem seqLoop_holds {T B : Nat} (hT : 1 ≤ T) (hB : 1 ≤ B) {ispad : Bool} (fuel j : Nat) {ss : List Stream} {fin : RFile}
    {fout : WFile} {X : List Block} (hss : ss.length = T) (h : Holds ispad fin X) (hf : X.length ≤ B * fuel)
    (hpos : fout.pos = fout.data.length) :
    OutIs (seqLoop T B ispad fuel j ss fin fout) (fout.data ++ written ispad (blkLoop T B j ss X)) := by
  obtain ⟨h1, h2⟩ := foldl_fwrite_end (exports T B ispad fuel j ss fin) fout hpos
  rw [← seqLoop_eq, exports_holds hT hB fuel j hss h hf] at h1
  rw [← seqLoop_eq] at h2
  exact ⟨h1, by rw [h2, h1]⟩

theorem Holds.length_le {ispad : Bool} {fin : RFile} {X : List Block} (h : Holds ispad fin X) : X.length ≤ fin.remaining / 16 + 1 := by
  have hr := remaining_eq fin
  cases ispad
  · rw [hr, h.2.1, joinBlocks_length]; omega
  · obtain ⟨bs, t, hd, ht, rfl⟩ := h
    rw [hr, hd]; simp; omega

/-- the fuel `seqPipeline` starts with is enough -/
theorem fuel_bound (B q : Nat) (hB : 1 ≤ B) : q + 1 ≤ B * (q / B + 2) := by
  have h1 := Nat.div_add_mod q B
  have h2 := Nat.mod_lt q (show 0 < B by omega)
  rw [Nat.mul_add]
  generalize B * (q / B) = X at *
  omega

theorem seqPipeline_holds {T B : Nat} (hT : 1 ≤ T) (hB : 1 ≤ B) {ispad : Bool} {ss : List Stream} {fin : RFile} {fout : WFile}
    {X : List Block} (hss : ss.length = T) (h : Holds ispad fin X) (hpos : fout.pos = fout.data.length) :
    OutIs (seqPipeline T B ispad ss fin fout) (fout.data ++ written ispad (blkLoop T B 0 ss X)) := by
  apply seqLoop_holds hT hB _ 0 hss h _ hpos
  rw [← Nat.div_div_eq_div_mul]
  exact Nat.le_trans h.length_le (fuel_bound B _ hB)

theorem exportOf_length_le (p : Bool) (o : List Block) (st : LSt) : (exportOf p o st).length ≤ 16 * o.length := by
  unfold exportOf exportBytes
  split
  · simp only [List.length_take, joinBlocks_length]; omega
  · simp

theorem exports_length_le (T : Nat) (p : Bool) : ∀ (cs : List (List Block)) (sts : List LSt) (j : Nat) (ss : List Stream),
    (List.zipWith (exportOf p) (runChunks T j ss cs) sts).flatten.length ≤ 16 * cs.flatten.length := by
  intro cs
  induction cs with
  | nil => intros; simp [runChunks]
  | cons c cs ih =>
    intro sts j ss
    rw [runChunks]
    cases ss[j % T]? with
    | none => simp
    | some s =>
      cases sts with
      | nil => simp
      | cons st sts =>
        have h1 := exportOf_length_le p (s.run c).2 st
        have h2 := ih sts (j + 1) (ss.set (j % T) (s.run c).1)
        rw [run_length] at h1
        simp only [List.zipWith_cons_cons, List.flatten_cons, List.length_append] at h2 ⊢
        omega

theorem load_false_le (B : Nat) (fin : RFile) :
    16 * (loadBuffer B fin false IoBuf.new).2.1.blocks.length + (loadBuffer B fin false IoBuf.new).1.remaining ≤ fin.remaining := by
  have hl := splitBlocks_fst_length ((fin.data.drop fin.pos).take (16 * B))
  have hg : ((fin.data.drop fin.pos).take (16 * B)).length ≤ fin.data.length - fin.pos := by
    simp only [List.length_take, List.length_drop]; omega
  simp only [loadBuffer_eq, apply_ite Prod.fst, apply_ite Prod.snd, apply_ite IoBuf.blocks, apply_ite RFile.data,
    apply_ite RFile.pos, peekEof_data, peekEof_pos, Bool.false_and, Bool.false_eq_true, if_false, ite_self,
    remaining_eq, List.length_drop, hl]
  omega

theorem loads_length_le (B : Nat) : ∀ (fuel : Nat) (fin : RFile),
    16 * ((loads B false fuel fin).map (·.1)).flatten.length ≤ fin.remaining := by
  intro fuel
  induction fuel with
  | zero => intro fin; simp [loads]
  | succ n ih =>
    intro fin
    have h := load_false_le B fin
    have h' := ih (loadBuffer B fin false IoBuf.new).1
    rw [loads]
    split <;> simp only [List.map_cons, List.map_nil, List.flatten_cons, List.flatten_nil, List.length_append, List.length_nil] <;> omega

theorem seqPipeline_length_le (T B : Nat) (ss : List Stream) (fin : RFile) (fout : WFile) (hp : fout.pos = fout.data.length) :
    (seqPipeline T B false ss fin fout).2.2.data.length ≤ fout.data.length + fin.remaining := by
  rw [seqPipeline_eq, (foldl_fwrite_end _ fout hp).1, List.length_append, exports]
  have h1 := exports_length_le T false ((loads B false (fin.remaining / (16 * B) + 2) fin).map (·.1))
    ((loads B false (fin.remaining / (16 * B) + 2) fin).map (·.2)) 0 ss
  have h2 := loads_length_le B (fin.remaining / (16 * B) + 2) fin
  omega

end Wencry.Proofs.SeqLoop

section AxiomCheck
open Wencry.Proofs.SeqLoop
#print axioms seqPipeline_length_le
end AxiomCheck
