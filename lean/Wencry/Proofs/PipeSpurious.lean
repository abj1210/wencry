/-
`PInv`, `RInv` and `DI` hold in every state reachable under any schedule and any pattern of spurious wake-ups
(Model/PipeSpurious.lean); ordinary reachability is the case in which none happens.
-/
import Wencry.Proofs.PipeDataInv
namespace Wencry.Proofs.PipeSpurious
open Wencry Wencry.Model.Pipe Wencry.Model.PipeSpurious Wencry.Model.IoBuffer
open Wencry.Proofs.PipeCtl Wencry.Proofs.PipeProgress Wencry.Proofs.PipeDataInv

variable {σ : Type}

theorem reach_reachS (f : σ → Block → σ × Block) (inp : Input) (ispad : Bool) (T : Nat) (ws0 : Nat → σ) (s : St σ)
    (h : Reach f inp ispad T ws0 s) : ReachS f inp ispad T ws0 s := by
  induction h with
  | init => exact ReachS.init
  | step s s' tid _ hs ih => exact ReachS.step s s' (.run tid) ih hs

section
variable {f : σ → Block → σ × Block} {inp : Input} {ispad : Bool} {P T : Nat} {ws0 : Nat → σ} {s s' : St σ} {tid : Option Nat}

theorem reachS_of_reach (h : Reach f inp ispad T ws0 s) : ReachS f inp ispad T ws0 s := reach_reachS f inp ispad T ws0 s h

/-- for the other variables see `spurious_cases` -/
theorem spurious_frame (hs : spurious T s tid = some s') : s'.viol = s.viol := by
  rcases spurious_cases hs with ⟨-, -, rfl⟩ | ⟨i, -, -, -, rfl⟩ <;> rfl

theorem reachS_ctl (hwf : inp.WF) (hT : 0 < T) (h : ReachS f inp ispad T ws0 s) : PInv T s ∧ s.viol = false := by
  induction h with
  | init => exact ⟨PInv_init hT ws0, rfl⟩
  | step s s' e _ hs ih =>
    cases e with
    | run tid => exact ⟨PInv_step hwf ih.1 hs, viol_step ih.1 ih.2 hs⟩
    | spur tid => exact ⟨PInv_spur ih.1 hs, spurious_frame hs ▸ ih.2⟩

theorem reachS_inv (hwf : inp.WF) (hT : 0 < T) (hP : FirstNonFull inp P) (h : ReachS f inp ispad T ws0 s) :
    PInv T s ∧ RInv inp P s ∧ ∃ V, DI f inp T ws0 ispad P V s := by
  refine ⟨(reachS_ctl hwf hT h).1, ?_⟩
  induction h with
  | init => exact ⟨RInv_init inp P T ws0, 0, DI_init f inp ispad P T ws0⟩
  | step s s' e hreach hs ih =>
    obtain ⟨hr, V, hV⟩ := ih
    have hp := (reachS_ctl hwf hT hreach).1
    cases e with
    | run tid => exact ⟨RInv_step hP hr hs, DI_step hP hp hr hV hs⟩
    | spur tid => exact ⟨RInv_spur hr hs, V, DI_spur hV hs⟩

theorem event_decreases (hwf : inp.WF) (hT : 0 < T) (hP : FirstNonFull inp P) {e : Ev} (h : ReachS f inp ispad T ws0 s)
    (he : e.isSpur = false) (hs : stepS f inp ispad T s e = some s') : lt4 (mu P T s') (mu P T s) := by
  obtain ⟨hp, hr, -⟩ := reachS_inv hwf hT hP h
  cases e with
  | run tid => exact step_decreases hp hr hs
  | spur tid => cases he

theorem upd_upd_self {α} (g : Nat → α) (i : Nat) (a : α) : upd (upd g i a) i (g i) = g := by
  funext j; by_cases h : j = i
  · subst h; simp
  · simp [h]

theorem spurious_then_retest_restores (f : σ → Block → σ × Block) (inp : Input) (ispad : Bool) (hp : PInv T s)
    (hs : spurious T s tid = some s') : step f inp ispad T s' tid = some s := by
  rcases spurious_cases hs with ⟨rfl, hpc, rfl⟩ | ⟨i, rfl, hi, hw, rfl⟩
  · -- the I/O thread sleeps because buffer `turn` is READY, so its re-test fails and it is back at `sleepUpd`
    have hready := (hp.bufOK (hp.turn_lt (by simp [hpc]))).sleepUpd_ready hpc
    simp only [step, stepIo, hready, reduceCtorEq, or_self, if_false]
    rw [← hpc]
  · -- the worker sleeps because its buffer is UPDATING (or still EMPTY), so its re-test fails and it is back where it slept
    have hb := (hp.bufOK hi).asleep
    rw [step_some hi]
    rcases hw.imp (fun e => And.intro e (hb.2 e)) (fun e => And.intro e (hb.1 e)) with ⟨hw, hst⟩ | ⟨hw, hst⟩
    all_goals
      simp only [stepW, upd_same, hw, wake, hst, reduceCtorEq, or_self, if_false]
      rw [← hw, upd_upd_self]
end

end Wencry.Proofs.PipeSpurious

section AxiomCheck
open Wencry.Proofs.PipeSpurious
#print axioms reach_reachS
#print axioms spurious_frame
#print axioms reachS_ctl
#print axioms reachS_inv
#print axioms event_decreases
#print axioms spurious_then_retest_restores
end AxiomCheck
