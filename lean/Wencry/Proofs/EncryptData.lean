/-
What `File.encrypt` writes: the header is a sequence of appending writes, the pipeline appends the dealt chunks of the padded
plaintext (`SeqLoop.seqPipeline_holds`), and the RFC 2104 tag of everything from offset 48 on goes over the zero field at offset 10.
`encrypt_pre` is the stream before the tag is written, `encrypt_data` the finished file; C01, C02 and C13 start from these.
-/
import Wencry.Proofs.FileLogic
namespace Wencry.Proofs.EncryptData
open Wencry Wencry.Model Wencry.Model.File Wencry.Model.Stdio Wencry.Model.IoBuffer Wencry.Model.Modes
open Wencry.Proofs.Stdio Wencry.Proofs.Blocks Wencry.Proofs.SeqLoop Wencry.Proofs.Roundtrip

theorem getIV_go_eq (n : Nat) (prev acc : Bytes) : getIV.go n prev acc = acc ++ (Spec.Wenc.ivChain n prev).flatten := by
  induction n generalizing prev acc with
  | zero => simp [getIV.go, Spec.Wenc.ivChain]
  | succ n ih => simp [getIV.go, Spec.Wenc.ivChain, HashCorrect.sha1_string prev, ih]

theorem getIV_eq (T : Nat) (hT : 1 ≤ T) (seed : Bytes) : getIV T seed = (Spec.Wenc.ivChain T seed).flatten := by
  obtain ⟨n, rfl⟩ : ∃ n, T = n + 1 := ⟨T - 1, by omega⟩
  simp [getIV, Spec.Wenc.ivChain, HashCorrect.sha1_string seed, getIV_go_eq]

theorem ivChain_flatten_length : ∀ (T : Nat) (x : Bytes), (Spec.Wenc.ivChain T x).flatten.length = 20 * T := by
  intro T
  induction T with
  | zero => intro x; simp [Spec.Wenc.ivChain]
  | succ n ih => intro x; simp [Spec.Wenc.ivChain, HashCorrect.sha1_length, ih]; omega

theorem getIV_length (T : Nat) (hT : 1 ≤ T) (seed : Bytes) : (getIV T seed).length = 20 * T := by
  rw [getIV_eq T hT, ivChain_flatten_length]

theorem writeHeader_eq (out : WFile) (c h : Byte) (T : Nat) (iv : Bytes) :
    writeHeader out c h T iv =
      ([Gen.magicBytes, [c], [h], List.replicate Gen.c_PADDING 0] ++ (List.range T).map fun i => (iv.drop (20 * i)).take 20).foldl
        WFile.fwrite out := by
  simp [writeHeader, List.foldl_map]

theorem flatten_slices (iv : Bytes) (k : Nat) : ((List.range k).map fun i => (iv.drop (20 * i)).take 20).flatten = iv.take (20 * k) := by
  induction k with
  | zero => simp
  | succ k ih => rw [List.range_succ, List.map_append, List.flatten_append, ih, Nat.mul_succ, List.take_add]; simp

theorem writeHeader_data (c h : Byte) (T : Nat) (iv : Bytes) (hiv : iv.length = 20 * T) :
    (writeHeader WFile.empty c h T iv).data = Gen.magicBytes ++ [c] ++ [h] ++ List.replicate 38 0 ++ iv ∧
    (writeHeader WFile.empty c h T iv).pos = (writeHeader WFile.empty c h T iv).data.length := by
  rw [writeHeader_eq]
  obtain ⟨h1, h2⟩ := foldl_fwrite_end
    ([Gen.magicBytes, [c], [h], List.replicate Gen.c_PADDING 0] ++ (List.range T).map fun i => (iv.drop (20 * i)).take 20) WFile.empty rfl
  refine ⟨?_, h2⟩
  rw [h1, List.flatten_append, flatten_slices, List.take_of_length_le (by omega)]
  simp [WFile.empty, Gen.c_PADDING]

theorem encrypt_eq (cfg : Cfg) (ctype htype : Nat) (key : Block) (seed plain : Bytes) :
    encrypt cfg ctype htype key seed plain =
      (prepareAES cfg.T ctype key (getIV cfg.T seed) true).bind fun ss =>
        writeFileHmac cfg htype key
          (seqPipeline cfg.T cfg.B true ss (RFile.open plain)
            (writeHeader WFile.empty (BitVec.ofNat 8 ctype) (BitVec.ofNat 8 htype) cfg.T (getIV cfg.T seed))).2.2 := rfl

/-- a tag is never empty, so the `fwrite` at offset 10 does write -/
theorem writeFileHmac_eq (cfg : Cfg) (hH : 1 ≤ cfg.H) (htype : Nat) (hh : htype ≤ 2) (key : Block) (out : WFile) :
    writeFileHmac cfg htype key out =
      let tag := Spec.HMAC.hmac (Spec.HMAC.hashOf htype) key.toList (out.data.drop 48)
      .ok { data := writeAt out.data 10 tag, pos := 10 + tag.length, log := out.log ++ [(10, tag)] } := by
  obtain ⟨fp', hg, -⟩ := HmacCorrect.getres_eq cfg.H hH htype hh key.toList (by simp) ((RFile.open out.data).fseek Gen.c_FILE_IV_MARK)
  have hl := (HmacCorrect.hmac_length_bounds htype key.toList (out.data.drop 48)).1
  change _ = some (Spec.HMAC.hmac _ _ (out.data.drop 48), fp') at hg
  unfold writeFileHmac
  simp only [hg]
  generalize Spec.HMAC.hmac (Spec.HMAC.hashOf htype) key.toList (out.data.drop 48) = tag at hl
  cases tag with
  | nil => simp at hl
  | cons a t => rfl

/-- the offsets are `FILE_MODE_MARK` = 8, `FILE_HMAC_MARK` = 10, `FILE_IV_MARK` = 48 -/
theorem header_fields {F m : Bytes} {c h : Byte} {field rest : Bytes} (hF : F = m ++ [c] ++ [h] ++ field ++ rest)
    (hm : m.length = 8) (hf : field.length = 38) :
    F.getD 8 0 = c ∧ F.getD 9 0 = h ∧ (F.drop 10).take 38 = field ∧ F.drop 48 = rest := by
  subst hF
  have e : m ++ [c] ++ [h] ++ field ++ rest = (m ++ [c] ++ [h]) ++ (field ++ rest) := by simp only [List.append_assoc]
  have h10 : (m ++ [c] ++ [h]).length = 10 := by simp [hm]
  exact ⟨by simp [List.getD_eq_getElem?_getD, hm], by simp [List.getD_eq_getElem?_getD, List.getElem?_append, hm],
    by rw [e, List.drop_left' h10, List.take_left' hf], List.drop_left' (by simp [hm, hf])⟩

theorem writeAt_header (m : Bytes) (c h : Byte) (tag rest : Bytes) (hm : m.length = 8) (ht : tag.length ≤ 38) :
    writeAt (m ++ [c] ++ [h] ++ List.replicate 38 0 ++ rest) 10 tag =
      m ++ [c] ++ [h] ++ tag ++ List.replicate (38 - tag.length) 0 ++ rest := by
  have e : m ++ [c] ++ [h] ++ List.replicate 38 0 ++ rest = (m ++ [c] ++ [h]) ++ (List.replicate 38 0 ++ rest) := by
    simp only [List.append_assoc]
  have h10 : (m ++ [c] ++ [h]).length = 10 := by simp [hm]
  rw [writeAt_inside _ 10 _ (by simp; omega), e, List.take_left' h10, ← List.drop_drop, List.drop_left' h10,
    List.drop_append_of_le_length (by simp; omega), List.drop_replicate]
  simp only [List.append_assoc]

theorem encrypt_pre (cfg : Cfg) (hT : 1 ≤ cfg.T) (hB : 1 ≤ cfg.B) (hH : 1 ≤ cfg.H) (ctype htype : Nat) (hc : ctype ≤ 4) (hh : htype ≤ 2)
    (key : Block) (seed plain : Bytes) :
    ∃ (ss : List Stream) (out : WFile) (tag : Bytes),
      prepareAES cfg.T ctype key (getIV cfg.T seed) true = .ok ss ∧ ss.length = cfg.T ∧
      out = (seqPipeline cfg.T cfg.B true ss (RFile.open plain)
        (writeHeader WFile.empty (BitVec.ofNat 8 ctype) (BitVec.ofNat 8 htype) cfg.T (getIV cfg.T seed))).2.2 ∧
      out.data = Gen.magicBytes ++ [BitVec.ofNat 8 ctype] ++ [BitVec.ofNat 8 htype] ++ List.replicate 38 0 ++
        (getIV cfg.T seed ++ joinBlocks (blkLoop cfg.T cfg.B 0 ss (splitBlocks (Spec.Wenc.pkcs7 plain)).1)) ∧
      out.pos = out.data.length ∧ tag = Spec.HMAC.hmac (Spec.HMAC.hashOf htype) key.toList (out.data.drop 48) ∧
      encrypt cfg ctype htype key seed plain =
        .ok { data := writeAt out.data 10 tag, pos := 10 + tag.length, log := out.log ++ [(10, tag)] } := by
  obtain ⟨ke, -, hprep⟩ := FileLogic.prepareAES_ok cfg.T ctype key (getIV cfg.T seed) true hc
  obtain ⟨hh1, hh2⟩ := writeHeader_data (BitVec.ofNat 8 ctype) (BitVec.ofNat 8 htype) cfg.T (getIV cfg.T seed) (getIV_length cfg.T hT seed)
  obtain ⟨hp1, hp2⟩ := seqPipeline_holds hT hB (List.length_replicate (n := cfg.T)) (holds_open plain) hh2
  refine ⟨_, _, _, hprep, List.length_replicate, rfl, ?_, ?_, rfl, ?_⟩
  · rw [hp1, hh1, List.append_assoc _ (getIV cfg.T seed)]; rfl
  · rw [hp2, hp1]
  · rw [encrypt_eq, hprep]
    exact writeFileHmac_eq cfg hH htype hh key _

theorem encrypt_data (cfg : Cfg) (hT : 1 ≤ cfg.T) (hB : 1 ≤ cfg.B) (hH : 1 ≤ cfg.H) (ctype htype : Nat) (hc : ctype ≤ 4) (hh : htype ≤ 2)
    (key : Block) (seed plain : Bytes) :
    ∃ (ss : List Stream) (auth tag : Bytes) (f : WFile),
      prepareAES cfg.T ctype key (getIV cfg.T seed) true = .ok ss ∧ ss.length = cfg.T ∧
      auth = getIV cfg.T seed ++ joinBlocks (blkLoop cfg.T cfg.B 0 ss (splitBlocks (Spec.Wenc.pkcs7 plain)).1) ∧
      tag = Spec.HMAC.hmac (Spec.HMAC.hashOf htype) key.toList auth ∧
      encrypt cfg ctype htype key seed plain = .ok f ∧
      f.data = Gen.magicBytes ++ [BitVec.ofNat 8 ctype] ++ [BitVec.ofNat 8 htype] ++ tag ++ List.replicate (38 - tag.length) 0 ++ auth := by
  obtain ⟨ss, out, tag, hss, hssl, -, hd, -, rfl, henc⟩ := encrypt_pre cfg hT hB hH ctype htype hc hh key seed plain
  have e48 := (header_fields hd rfl (by simp)).2.2.2
  have hl := (HmacCorrect.hmac_length_bounds htype key.toList (out.data.drop 48)).2
  rw [e48] at henc hl
  exact ⟨ss, _, _, _, hss, hssl, rfl, rfl, henc, by rw [hd, writeAt_header _ _ _ _ _ rfl (by omega)]⟩

end Wencry.Proofs.EncryptData
