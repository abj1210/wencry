/-
The mutex level with spurious wake-ups (Model/PipeFineSpurious.lean) refines the coarse system with spurious wake-ups
(Model/PipeSpurious.lean): a fine spurious wake-up is invisible (a notification was already pending) or is exactly a coarse one.
-/
import Wencry.Model.PipeFineSpurious
import Wencry.Proofs.PipeFine
import Wencry.Proofs.PipeSpurious
namespace Wencry.Proofs.PipeFineSpurious
open Wencry Wencry.Model.Pipe Wencry.Model.PipeFine Wencry.Model.PipeSpurious Wencry.Model.PipeFineSpurious Wencry.Model.IoBuffer
open Wencry.Proofs.PipeCtl Wencry.Proofs.PipeProgress Wencry.Proofs.PipeSpurious Wencry.Proofs.PipeFine

variable {σ : Type}

section
variable {f : σ → Block → σ × Block} {inp : Input} {ispad : Bool} {P T : Nat} {ws0 : Nat → σ} {s s' : FSt σ} {tid : Tid}

theorem fspurious_cases (hs : fspurious T s tid = some s') :
    (tid = none ∧ s.fio = .wuSleep ∧ s' = { s with fio := .wuReacq }) ∨
    (∃ i p, tid = some i ∧ i < T ∧ (s.fw i = .wrSleep ∧ p = .wrReacq ∨ s.fw i = .initSleep ∧ p = .initReacq) ∧
      s' = { s with fw := upd s.fw i p }) := by
  cases tid with
  | none =>
    simp only [fspurious] at hs
    split at hs <;> cases hs
    exact Or.inl ⟨rfl, ‹_›, rfl⟩
  | some i =>
    simp only [fspurious] at hs
    split at hs
    · split at hs <;> cases hs
      · exact Or.inr ⟨i, _, rfl, ‹_›, Or.inl ⟨‹_›, rfl⟩, rfl⟩
      · exact Or.inr ⟨i, _, rfl, ‹_›, Or.inr ⟨‹_›, rfl⟩, rfl⟩
    · cases hs

theorem fine_spurious_simulated (hs : fspurious T s tid = some s') :
    abs s' = abs s ∨ spurious T (abs s) tid = some (abs s') := by
  rcases fspurious_cases hs with ⟨rfl, hq, rfl⟩ | ⟨i, p, rfl, hi, hp, rfl⟩
  · -- the I/O thread: invisible if worker `turn` is about to notify it
    have hW := absW_ioMoved (s := s) (d := s.d) (l := s.lock) (q := .wuReacq) (by simp) (by simp [hq])
    by_cases hpend : s.fw s.d.turn = .suNotify
    · exact Or.inl (abs_ext rfl hW (by simp [absIo, hq, hpend]))
    · right
      simp only [spurious, abs_iopc, absIo, hq, hpend, if_false, if_true]
      refine congrArg some (Eq.symm ?_)
      exact abs_eq rfl hW (by simp [absIo])
  · -- a worker, asleep in `require_buffer_entry` or in `wait_buffer_loaded`: invisible if the I/O thread is about to notify it
    rcases hp with ⟨h, rfl⟩ | ⟨h, rfl⟩
    all_goals
      by_cases hpend : s.fio = .srNotify ∧ s.d.turn = i
      · exact Or.inl (abs_ext rfl (absW_moved Iff.rfl rfl (by simp [absW, h, hpend]) fun _ _ => rfl)
          (absIo_moved rfl (by simp) (by simp [h])))
      · right
        simp only [spurious, hi, if_true, abs_wpc, absW, h, hpend, if_false]
        refine congrArg some (Eq.symm ?_)
        exact abs_eq rfl (absW_moved Iff.rfl rfl (by simp [absW]) fun j hj => upd_other _ _ _ _ hj)
          (absIo_moved rfl (by simp) (by simp [h]))

theorem FInv_spurious (h : FInv T s) (hs : fspurious T s tid = some s') : FInv T s' := by
  refine ⟨?_, ?_⟩
  · rcases fspurious_cases hs with ⟨rfl, hq, rfl⟩ | ⟨i, p, rfl, hi, hp, rfl⟩
    · exact LockInv_updIo h.lock (by simp [hq, holdsIo]) (by simp [holdsIo])
    · refine LockInv_moveW h.lock Iff.rfl rfl (fun _ _ => rfl) ?_
      have := h.lock i hi
      rcases hp with ⟨hp, rfl⟩ | ⟨hp, rfl⟩ <;> simpa [hp, holdsW] using this
  · rcases fine_spurious_simulated hs with h1 | h1
    · rw [h1]; exact h.ctl
    · exact PInv_spur h.ctl h1

theorem freach_freachS (h : FReach f inp ispad T ws0 s) : FReachS f inp ispad T ws0 s := by
  induction h with
  | init => exact FReachS.init
  | step s s' tid _ hs ih => exact FReachS.step s s' (.run tid) ih hs

theorem freachS_inv (hwf : inp.WF) (hT : 0 < T) (h : FReachS f inp ispad T ws0 s) :
    FInv T s ∧ ReachS f inp ispad T ws0 (abs s) := by
  induction h with
  | init => exact ⟨FInv_init hT ws0, ReachS.init⟩
  | step s s' e _ hs ih =>
    cases e with
    | run tid =>
      refine ⟨FInv_step hwf ih.1 hs, ?_⟩
      rcases fine_step_simulated ih.1 hs with h1 | h1
      · rw [h1]; exact ih.2
      · exact ReachS.step _ _ (.run tid) ih.2 h1
    | spur tid =>
      refine ⟨FInv_spurious ih.1 hs, ?_⟩
      rcases fine_spurious_simulated hs with h1 | h1
      · rw [h1]; exact ih.2
      · exact ReachS.step _ _ (.spur tid) ih.2 h1

theorem fine_event_decreases (hwf : inp.WF) (hT : 0 < T) (hP : FirstNonFull inp P) {e : Ev} (h : FReachS f inp ispad T ws0 s)
    (he : e.isSpur = false) (hs : fstepS f inp ispad T s e = some s') :
    ltFine (mu P T (abs s'), fineRank T s') (mu P T (abs s), fineRank T s) := by
  obtain ⟨hinv, hreach⟩ := freachS_inv hwf hT h
  cases e with
  | run tid => exact fine_step_decreases hinv (reachS_inv hwf hT hP hreach).2.1 hs
  | spur tid => cases he
end

end Wencry.Proofs.PipeFineSpurious

section AxiomCheck
open Wencry.Proofs.PipeFineSpurious
#print axioms fine_spurious_simulated
#print axioms FInv_spurious
#print axioms freachS_inv
#print axioms freach_freachS
#print axioms fine_event_decreases
end AxiomCheck
