/-
The data invariant `DI` (DESIGN.md, Appendix A). `V` counts the visits of the I/O thread: visit `V` is to buffer `V % T` and issues
load `V` while the input lasts. A window of `T` visit numbers `[W, W + T)` describes the buffers, buffer `n % T` by its NEXT visit
`n`, so that the chunk it holds is `n - T`. `nexp = min nChunks (V + e - T)` with truncated subtraction, which covers the first round.
-/
import Wencry.Proofs.PipeProgress
namespace Wencry.Proofs.PipeDataInv
open Wencry Wencry.Model.Pipe Wencry.Model.PipeSpurious Wencry.Model.IoBuffer Wencry.Proofs.PipeCtl Wencry.Proofs.PipeProgress
variable {σ : Type}

section
variable {T a b i V n : Nat}

theorem win_exists (hi : i < T) (W : Nat) : ∃ n, W ≤ n ∧ n < W + T ∧ n % T = i := by
  induction W with
  | zero => exact ⟨i, by omega, by omega, Nat.mod_eq_of_lt hi⟩
  | succ W ih =>
    obtain ⟨n, h1, h2, h3⟩ := ih
    by_cases h : n = W
    · exact ⟨n + T, by omega, by omega, by rw [Nat.add_mod_right]; exact h3⟩
    · exact ⟨n, by omega, by omega, h3⟩

theorem win_ne (h1 : V ≤ n) (h2 : n < V + T) (h : n ≠ V) : n % T ≠ V % T :=
  fun he => h (mod_uniq h1 h2 he.symm).symm

end

section
variable (f : σ → Block → σ × Block) (inp : Input) {T : Nat} (ws0 : Nat → σ)

theorem runF_length (xs : List Block) : ∀ s, (runF f s xs).2.length = xs.length := by
  induction xs with
  | nil => intro s; rfl
  | cons b bs ih => intro s; simp [runF, ih]

theorem refBefore_lt {c : Nat} (h : c < T) : refBefore f inp T ws0 c = ws0 c := by
  rw [refBefore]; simp [h]

theorem refBefore_next {V : Nat} (hT : 0 < T) (h : T ≤ V) :
    refBefore f inp T ws0 V = (runF f (refBefore f inp T ws0 (V - T)) (inp (V - T)).1).1 := by
  rw [refBefore]; rw [dif_neg (by omega)]

theorem seqOut_succ (ispad : Bool) (T : Nat) (n : Nat) :
    seqOut f inp ispad T ws0 (n + 1) = seqOut f inp ispad T ws0 n ++ refExport f inp ispad T ws0 n := by
  simp [seqOut, List.range_succ]
end

theorem nChunks_ge (inp : Input) (P : Nat) : P ≤ nChunks inp P := by unfold nChunks; split <;> omega
theorem nChunks_le (inp : Input) (P : Nat) : nChunks inp P ≤ P + 1 := by unfold nChunks; split <;> omega

theorem lt_nChunks_iff {inp : Input} {P V : Nat} (hP : FirstNonFull inp P) (hV : V ≤ P) :
    V < nChunks inp P ↔ (inp V).2 ≠ .nodata := by
  by_cases hlt : V < P
  · have := nChunks_ge inp P
    simp [hP.2 V hlt]; omega
  · have hVP : V = P := by omega
    have := hP.1
    unfold nChunks
    cases hx : (inp P).2 <;> simp_all

def partOut (f : σ → Block → σ × Block) (s0 : σ) (xs : List Block) (d : Nat) : List Block :=
  (runF f s0 xs).2.take d ++ xs.drop d

theorem partOut_zero (f : σ → Block → σ × Block) (s0 : σ) (xs : List Block) : partOut f s0 xs 0 = xs := by
  simp [partOut]

theorem partOut_full (f : σ → Block → σ × Block) (s0 : σ) (xs : List Block) : partOut f s0 xs xs.length = (runF f s0 xs).2 := by
  have := runF_length f xs s0
  simp [partOut, ← this]

theorem part_step (f : σ → Block → σ × Block) (z : Block) {xs : List Block} : ∀ (s0 : σ) {d : Nat}, d < xs.length →
    (runF f s0 (xs.take (d+1))).1 = (f (runF f s0 (xs.take d)).1 ((partOut f s0 xs d).getD d z)).1 ∧
    partOut f s0 xs (d+1) = (partOut f s0 xs d).set d (f (runF f s0 (xs.take d)).1 ((partOut f s0 xs d).getD d z)).2 := by
  induction xs with
  | nil => intro s0 d h; simp at h
  | cons b bs ih =>
    intro s0 d h
    cases d with
    | zero => simp [partOut, runF]
    | succ d =>
      have := ih (f s0 b).1 (d := d) (by simpa using h)
      simp only [partOut] at this ⊢
      simp only [runF, List.take_succ_cons, List.drop_succ_cons, List.cons_append, List.getD_cons_succ, List.set_cons_succ]
      exact ⟨this.1, by rw [this.2]⟩

/-- the log of worker `i` once the chunks below `n` are done; C03 and C14 state it as `PipeData.workerLog` -/
def wLog (inp : Input) (T n i : Nat) : List (Nat × Nat × Nat) :=
  ((List.range n).filter (fun c => c % T = i)).flatMap fun c => (List.range (inp c).1.length).map fun k => (i, c, k)

theorem wLog_eq_seg (inp : Input) (T n i : Nat) :
    wLog inp T n i = seg T (fun c => (List.range (inp c).1.length).map fun k => (i, c, k)) 0 n i := by
  rw [wLog, seg, List.range_eq_range']

/-- start `W` of the window: `V + 1` once buffer `V % T` is released -/
def wOf (pc : IoPc) (V : Nat) : Nat := match pc with | .iter | .done => V+1 | _ => V
/-- number of loads issued (while the input lasts) -/
def lOf (pc : IoPc) (V : Nat) : Nat := match pc with | .setRdy | .iter | .done => V+1 | _ => V
/-- 1 once the export of visit `V` is behind -/
def eOf (pc : IoPc) : Nat := match pc with | .loadDecide | .loading | .setRdy | .iter | .done => 1 | _ => 0
/-- transformed blocks of the chunk in buffer `b`: at `process` the cursor is one ahead -/
def dOf (b : Buf) (p : WPc) : Nat := if p = .process then b.now - 1 else b.now

def lgOf (s : St σ) (i : Nat) : List (Nat × Nat × Nat) := s.log.filter (fun e => e.1 = i)

/-- what `DI` reads of one buffer -/
structure BufView (σ : Type) where
  b : Buf
  p : WPc
  dat : List Block
  fin : Bool
  w : σ
  cid : Nat
  lg : List (Nat × Nat × Nat)

def view (s : St σ) (i : Nat) : BufView σ := ⟨s.buf i, s.wpc i, s.dat i, s.fin i, s.ws i, s.cid i, lgOf s i⟩

section
variable (f : σ → Block → σ × Block) (inp : Input) (T : Nat) (ws0 : Nat → σ) (nCh : Nat)

structure BufFresh (n : Nat) (v : BufView σ) : Prop where
  st : v.b.st = .empty
  fin : v.fin = false
  w : v.w = refBefore f inp T ws0 n
  lg : v.lg = []

structure BufChunk (c i : Nat) (v : BufView σ) : Prop where
  st : v.b.st = .ready ∨ v.b.st = .updating
  cid : v.cid = c
  total : v.b.total = (inp c).1.length
  fin : v.fin = decide ((inp c).2 = .final)
  dat : v.dat = partOut f (refBefore f inp T ws0 c) (inp c).1 (dOf v.b v.p)
  w : v.w = (runF f (refBefore f inp T ws0 c) ((inp c).1.take (dOf v.b v.p))).1
  lg : v.lg = wLog inp T c i ++ (List.range (dOf v.b v.p)).map (fun k => (i, c, k))

structure BufRetired (i : Nat) (v : BufView σ) : Prop where
  st : v.b.st = .inv
  lg : v.lg = wLog inp T nCh i

/-- buffer i, whose next I/O visit is visit n (so its last one was n - T) -/
structure BufD (n i : Nat) (v : BufView σ) : Prop where
  fresh : n < T → BufFresh f inp T ws0 n v
  chunk : T ≤ n → n - T < nCh → BufChunk f inp T ws0 (n - T) i v
  retired : T ≤ n → nCh ≤ n - T → BufRetired inp T nCh i v

/-- buffer i just loaded with load n, not yet released (`lst` is in `RInv.loaded`) -/
structure BufL (n i : Nat) (v : BufView σ) : Prop where
  now : v.b.now = 0
  total : v.b.total = (inp n).1.length
  dat : v.dat = (inp n).1
  fin : v.fin = decide ((inp n).2 = .final)
  w : v.w = refBefore f inp T ws0 n
  cid : v.cid = n
  lg : v.lg = wLog inp T n i

def BufI (V : Nat) (s : St σ) (n : Nat) : Prop :=
  if s.iopc = .setRdy ∧ s.over = false ∧ n = V then BufL f inp T ws0 n (n % T) (view s (n % T))
  else BufD f inp T ws0 nCh n (n % T) (view s (n % T))

/-- `P` is the index of the first load that is not FULL (`FirstNonFull`) -/
structure DI (ispad : Bool) (P V : Nat) (s : St σ) : Prop where
  turn : s.turn = V % T
  pos : s.over = false → s.pos = lOf s.iopc V
  /-- once the input is over no buffer of the window awaits a chunk -/
  over : s.over = true → P + 1 ≤ wOf s.iopc V
  nexp : s.nexp = min (nChunks inp P) (V + eOf s.iopc - T)
  out : s.out = seqOut f inp ispad T ws0 s.nexp
  buf : ∀ n, wOf s.iopc V ≤ n → n < wOf s.iopc V + T → BufI f inp T ws0 (nChunks inp P) V s n
end

section
variable {f : σ → Block → σ × Block} {inp : Input} {T : Nat} {ws0 : Nat → σ} {nCh : Nat} {ispad : Bool} {P V n i : Nat}
  {s s' : St σ} {v : BufView σ}

theorem lgOf_append_same (l : List (Nat × Nat × Nat)) (i c k : Nat) :
    (l ++ [(i, c, k)]).filter (fun e => e.1 = i) = l.filter (fun e => e.1 = i) ++ [(i, c, k)] := by
  simp [List.filter_append]

theorem lgOf_append_other (l : List (Nat × Nat × Nat)) (c k : Nat) {i j : Nat} (h : i ≠ j) :
    (l ++ [(i, c, k)]).filter (fun e => e.1 = j) = l.filter (fun e => e.1 = j) := by
  simp [List.filter_append, h]

theorem BufD_st (h : BufD f inp T ws0 nCh n i v) :
    (v.b.st = .empty ↔ n < T) ∧ ((v.b.st = .ready ∨ v.b.st = .updating) ↔ T ≤ n ∧ n - T < nCh) ∧
    (v.b.st = .inv ↔ T ≤ n ∧ nCh ≤ n - T) := by
  by_cases hn : n < T
  · have := (h.fresh hn).st
    grind
  · by_cases hm : n - T < nCh
    · have := (h.chunk (by omega) hm).st
      grind
    · have := (h.retired (by omega) (by omega)).st
      grind

theorem BufD.of_empty (h : BufD f inp T ws0 nCh n i v) (hst : v.b.st = .empty) : n < T := (BufD_st h).1.1 hst

theorem BufD.of_loaded (h : BufD f inp T ws0 nCh n i v) (hst : v.b.st = .ready ∨ v.b.st = .updating) :
    T ≤ n ∧ n - T < nCh ∧ BufChunk f inp T ws0 (n - T) i v := by
  obtain ⟨hn, hm⟩ := (BufD_st h).2.1.1 hst
  exact ⟨hn, hm, h.chunk hn hm⟩

theorem BufD.of_inv (h : BufD f inp T ws0 nCh n i v) (hst : v.b.st = .inv) : T ≤ n ∧ nCh ≤ n - T ∧ v.lg = wLog inp T nCh i := by
  obtain ⟨hn, hm⟩ := (BufD_st h).2.2.1 hst
  exact ⟨hn, hm, (h.retired hn hm).lg⟩

theorem BufD_mono {b' : Buf} {p' : WPc} (h : BufD f inp T ws0 nCh n i v)
    (h1 : b'.st = v.b.st ∨ (v.b.st = .ready ∧ b'.st = .updating)) (h2 : b'.total = v.b.total) (h3 : dOf b' p' = dOf v.b v.p) :
    BufD f inp T ws0 nCh n i { v with b := b', p := p' } := by
  have hchunk : ∀ q : BufChunk f inp T ws0 (n - T) i v, b'.st = .ready ∨ b'.st = .updating →
      BufChunk f inp T ws0 (n - T) i { v with b := b', p := p' } :=
    fun q e => ⟨e, q.cid, h2.trans q.total, q.fin, h3 ▸ q.dat, h3 ▸ q.w, h3 ▸ q.lg⟩
  rcases h1 with h1 | ⟨hr, hu⟩
  · exact ⟨fun hn => let q := h.fresh hn; ⟨h1.trans q.st, q.fin, q.w, q.lg⟩, fun hn hm => hchunk (h.chunk hn hm) (h1 ▸ (h.chunk hn hm).st),
      fun hn hm => let q := h.retired hn hm; ⟨h1.trans q.st, q.lg⟩⟩
  · -- READY occurs only in the second description
    obtain ⟨hn, hm, q⟩ := h.of_loaded (Or.inl hr)
    exact ⟨fun _ => by omega, fun _ _ => hchunk q (Or.inr hu), fun _ _ => by omega⟩

theorem stepW_quiet (hs : stepW f s i = some s') (hnp : s.wpc i ≠ .process) :
    ((s'.buf i).st = (s.buf i).st ∨ ((s.buf i).st = .ready ∧ (s'.buf i).st = .updating)) ∧
    (s'.buf i).total = (s.buf i).total ∧ dOf (s'.buf i) (s'.wpc i) = dOf (s.buf i) (s.wpc i) := by
  cases hpc : s.wpc i <;> simp only [stepW, hpc] at hs <;> (try split at hs) <;> cases hs
  all_goals simp_all [dOf]

theorem lgOf_stepW {j : Nat} (hs : stepW f s i = some s') (h : j ≠ i ∨ s.wpc i ≠ .process) : lgOf s' j = lgOf s j := by
  have fr := stepW_frame hs
  rcases h with h | h
  · rcases fr.log with e | ⟨c, k, e⟩
    · rw [lgOf, e]; rfl
    · rw [lgOf, e]; exact lgOf_append_other s.log c k (Ne.symm h)
  · rw [lgOf, (fr.quiet h).2.2]; rfl

theorem view_stepW_other {j : Nat} (hs : stepW f s i = some s') (hj : j ≠ i) : view s' j = view s j := by
  have fr := stepW_frame hs
  obtain ⟨q1, q2, q3, q4⟩ := fr.other j hj
  simp only [view, q1, q2, q3, q4, fr.fin, fr.cid, lgOf_stepW hs (Or.inl hj)]

theorem view_stepW_self (hs : stepW f s i = some s') (hnp : s.wpc i ≠ .process) :
    view s' i = { view s i with b := s'.buf i, p := s'.wpc i } := by
  have fr := stepW_frame hs
  simp only [view, fr.fin, fr.cid, (fr.quiet hnp).1, (fr.quiet hnp).2.1, lgOf_stepW hs (Or.inr hnp)]

theorem view_stepIo_other {j : Nat} (hs : stepIo inp ispad T s = some s') (hj : j ≠ s.turn) : view s' j = view s j := by
  have fr := stepIo_frame hs
  obtain ⟨q1, q2, q3, q4, q5⟩ := fr.other j hj
  simp only [view, lgOf, q1, q2, q3, q4, q5, fr.ws, fr.log]

theorem BufD_stepW (hb : BufOK s i) (hs : stepW f s i = some s') (h : BufD f inp T ws0 nCh n i (view s i)) :
    BufD f inp T ws0 nCh n i (view s' i) := by
  by_cases hproc : s.wpc i = .process
  · -- the transforming step: the buffer is READY, so it holds chunk `n - T`, of which one more block is done
    obtain ⟨hst, hle, h1⟩ := hb.at_process hproc
    obtain ⟨hn, hm, q⟩ := h.of_loaded (Or.inl hst)
    simp only [stepW, hproc, Option.some.injEq] at hs
    subst hs
    refine ⟨fun _ => by omega, fun _ _ => ?_, fun _ _ => by omega⟩
    have hd1 : dOf (s.buf i) (s.wpc i) = (s.buf i).now - 1 := by simp [dOf, hproc]
    have hd2 : dOf (s.buf i) .fetch = ((s.buf i).now - 1) + 1 := by simp [dOf]; omega
    have hps := part_step f Block.zero (refBefore f inp T ws0 (n - T))
      (show (s.buf i).now - 1 < (inp (n - T)).1.length by have := q.total; simp only [view] at this; omega)
    have qd := q.dat; have qw := q.w; have ql := q.lg; have qc := q.cid
    simp only [view, hd1] at qd qw ql qc
    refine ⟨q.st, q.cid, q.total, q.fin, ?_, ?_, ?_⟩ <;> simp only [view, upd_same, lgOf, hd2]
    · rw [hps.2, ← qd, ← qw]
    · rw [hps.1, ← qd, ← qw]
    · rw [lgOf_append_same, ← lgOf, ql, qc, List.range_succ, List.map_append, List.append_assoc]; rfl
  · obtain ⟨h1, h2, h3⟩ := stepW_quiet hs hproc
    rw [view_stepW_self hs hproc]
    exact BufD_mono h h1 h2 h3

theorem BufI_frame {V' : Nat} (h : BufI f inp T ws0 nCh V s n) (hv : view s' (n % T) = view s (n % T))
    (hc : (s'.iopc = .setRdy ∧ s'.over = false ∧ n = V') ↔ (s.iopc = .setRdy ∧ s.over = false ∧ n = V)) :
    BufI f inp T ws0 nCh V' s' n := by
  unfold BufI at h ⊢
  rw [hv]
  by_cases c : s.iopc = .setRdy ∧ s.over = false ∧ n = V
  · rw [if_pos (hc.2 c)]; rwa [if_pos c] at h
  · rw [if_neg (fun c' => c (hc.1 c'))]; rwa [if_neg c] at h

theorem DI_stepW (hi : i < T) (hp : PInv T s) (h : DI f inp T ws0 ispad P V s) (hs : stepW f s i = some s') :
    DI f inp T ws0 ispad P V s' := by
  have fr := stepW_frame hs
  -- the I/O thread moves at most from `sleepUpd` to `waitUpd`, which the counters of `DI` do not distinguish
  have hw : wOf s'.iopc V = wOf s.iopc V ∧ lOf s'.iopc V = lOf s.iopc V ∧ eOf s'.iopc = eOf s.iopc ∧
      (s'.iopc = .setRdy ↔ s.iopc = .setRdy) := by
    rcases fr.iopc with h | ⟨h1, -, h2⟩
    · rw [h]; exact ⟨rfl, rfl, rfl, Iff.rfl⟩
    · rw [h1, h2]; exact ⟨rfl, rfl, rfl, by simp⟩
  obtain ⟨hw, hl, he, hsr⟩ := hw
  refine ⟨fr.turn ▸ h.turn, by rw [fr.over, fr.pos, hl]; exact h.pos, by rw [fr.over, hw]; exact h.over,
    by rw [fr.nexp, he]; exact h.nexp, by rw [fr.out, fr.nexp]; exact h.out, fun n h1 h2 => ?_⟩
  rw [hw] at h1 h2
  have hn := h.buf n h1 h2
  by_cases hni : n % T = i
  · subst hni
    unfold BufI at hn ⊢
    rw [fr.over]
    simp only [hsr]
    by_cases hc : s.iopc = .setRdy ∧ s.over = false ∧ n = V
    · -- between a load and the release of the buffer its worker waits and leaves the buffer alone
      rw [if_pos hc] at hn ⊢
      have hpark := (io_exclusive hp hi ⟨by rw [h.turn, hc.2.2], by simp [hc.1]⟩).2
      rw [view_stepW_self hs hpark.not_process.1, fr.parked hpark]
      exact ⟨hn.now, hn.total, hn.dat, hn.fin, hn.w, hn.cid, hn.lg⟩
    · rw [if_neg hc] at hn ⊢
      exact BufD_stepW (hp.bufOK hi) hs hn
  · exact BufI_frame hn (view_stepW_other hs hni) (by rw [hsr, fr.over])

theorem DI_lst (l' : LSt) (h : DI f inp T ws0 ispad P V s) : DI f inp T ws0 ispad P V { s with lst := l' } :=
  ⟨h.turn, h.pos, h.over, h.nexp, h.out, fun n h1 h2 => BufI_frame (h.buf n h1 h2) rfl Iff.rfl⟩

/-- `hl`, `he` ask no more because `DI` cannot tell `lOf` once the input is over, nor `eOf` under the truncated subtraction;
    `hsr`, `hsr'`: the step neither enters nor leaves the condition of `BufL`. -/
theorem DI_iopc {pc pc' : IoPc} (hpc : s.iopc = pc) (hw : wOf pc' V = wOf pc V)
    (hl : s.over = false → lOf pc' V = lOf pc V)
    (he : min (nChunks inp P) (V + eOf pc' - T) = min (nChunks inp P) (V + eOf pc - T))
    (hsr : pc' = .setRdy → s.over = true) (hsr' : pc ≠ .setRdy)
    (h : DI f inp T ws0 ispad P V s) : DI f inp T ws0 ispad P V { s with iopc := pc' } := by
  subst hpc
  refine ⟨h.turn, fun ho => (hl ho).symm ▸ h.pos ho, hw.symm ▸ h.over, he.symm ▸ h.nexp, h.out, fun n h1 h2 => ?_⟩
  simp only [hw] at h1 h2
  exact BufI_frame (h.buf n h1 h2) rfl (by grind)

theorem DI.cur {pc : IoPc} (h : DI f inp T ws0 ispad P V s) (hT : 0 < T) (hpc : s.iopc = pc) (hw : wOf pc V = V)
    (hc : pc ≠ .setRdy) : BufD f inp T ws0 (nChunks inp P) V s.turn (view s s.turn) := by
  subst hpc
  have := h.buf V (by omega) (by omega)
  rwa [BufI, if_neg (fun c => hc c.1), ← h.turn] at this

theorem DI_chk (hpc : s.iopc = .chk) (hp : PInv T s) (h : DI f inp T ws0 ispad P V s)
    (hs : stepIo inp ispad T s = some s') : DI f inp T ws0 ispad P V s' := by
  simp only [stepIo, hpc, Option.some.injEq] at hs
  subst hs
  have ht : s.turn < T := hp.turn_lt (by simp [hpc])
  by_cases hu : (s.buf s.turn).st = .updating
  · rw [if_pos hu]
    exact DI_iopc hpc rfl (fun _ => rfl) rfl nofun nofun h
  · -- otherwise the buffer is EMPTY: it has never been loaded, and there is nothing to export (`V + 1 - T = V - T = 0`)
    rw [if_neg hu]
    have he : (s.buf s.turn).st = .empty := (io_exclusive hp ht ⟨rfl, Or.inl hpc⟩).1.resolve_right hu
    have hVT : V < T := (h.cur (by omega) hpc rfl nofun).of_empty he
    refine DI_iopc hpc rfl (fun _ => rfl) ?_ nofun nofun h
    simp only [eOf]; congr 1; omega

theorem DI.at_export (h : DI f inp T ws0 ispad P V s) (hpc : s.iopc = .exporting) (hp : PInv T s) :
    (T ≤ V ∧ s.nexp = V - T ∧ (s.buf s.turn).total = (inp s.nexp).1.length) ∧
    s.cid s.turn = s.nexp ∧ s.nexp < nChunks inp P ∧ (s.buf s.turn).now = (s.buf s.turn).total ∧
    s.dat s.turn = refOut f inp T ws0 s.nexp ∧ s.fin s.turn = decide ((inp s.nexp).2 = .final) := by
  have ht : s.turn < T := hp.turn_lt (by simp [hpc])
  have hcur := h.cur (by omega) hpc rfl nofun
  have hio : ioIn s s.turn := ⟨rfl, by simp [hpc]⟩
  have hu := (hp.bufOK ht).exporting_updating hpc
  have hnt := (hp.bufOK ht).io_complete hio (by simp [hpc])
  have hw := (io_exclusive hp ht hio).2.not_process.1
  obtain ⟨hVT, hm, q⟩ := hcur.of_loaded (Or.inr hu)
  have hne : s.nexp = V - T := by have := h.nexp; rw [hpc] at this; simp only [eOf] at this; omega
  have qt := q.total; have qd := q.dat
  have hd : dOf (s.buf s.turn) (s.wpc s.turn) = (inp (V - T)).1.length := by simp [dOf, hw, hnt, ← qt, view]
  simp only [view, hd, partOut_full] at qt qd
  rw [hne]
  exact ⟨⟨hVT, rfl, qt⟩, q.cid, hm, hnt, qd, q.fin⟩

theorem DI_exporting (hpc : s.iopc = .exporting) (hp : PInv T s) (h : DI f inp T ws0 ispad P V s)
    (hs : stepIo inp ispad T s = some s') : DI f inp T ws0 ispad P V s' := by
  obtain ⟨⟨a1, a2, a3⟩, -, a4, a5, a6, a7⟩ := h.at_export hpc hp
  simp only [stepIo, hpc, Option.some.injEq] at hs
  subst hs
  have hturn := h.turn; have hpo := h.pos; have hovr := h.over; have hout := h.out; have hbuf := h.buf
  rw [hpc] at hpo hovr hbuf
  refine ⟨hturn, hpo, hovr, ?_, ?_, fun n h1 h2 => BufI_frame (hbuf n h1 h2) rfl (by simp [hpc])⟩
  · simp only [eOf]; omega
  · simp only []
    rw [seqOut_succ, ← hout]; congr 1
    simp only [ioBufOf, refExport, a3, a5, a6, a7]

/-- `fin` is sticky (`isfinal` is never reset in the C++): it is `false` only because the chunk held before, if any, was a FULL load -/
theorem BufD_parked (hT : 0 < T) (hi : V % T = i) (hnow : v.b.now = v.b.total) (hp : v.p ≠ .process)
    (h : BufD f inp T ws0 nCh V i v) :
    v.lg = wLog inp T (min V nCh) i ∧
    (V ≤ nCh → v.w = refBefore f inp T ws0 V ∧ ((∀ c, c + T = V → (inp c).2 = .full) → v.fin = false)) := by
  have hiT : i < T := by rw [← hi]; exact Nat.mod_lt _ hT
  by_cases hVT : V < T
  · have q := h.fresh hVT
    have : V = i := by rw [← hi]; exact (Nat.mod_eq_of_lt hVT).symm
    exact ⟨by rw [q.lg, wLog_eq_seg, seg_low hiT (by omega)], fun _ => ⟨q.w, fun _ => q.fin⟩⟩
  · by_cases hm : V - T < nCh
    · have q := h.chunk (by omega) hm
      have hd : dOf v.b v.p = (inp (V - T)).1.length := by simp [dOf, hp, hnow, q.total]
      have qw := q.w; have ql := q.lg
      rw [hd] at qw ql
      rw [List.take_length] at qw
      refine ⟨?_, fun _ => ⟨?_, fun hfull => ?_⟩⟩
      · rw [ql, wLog_eq_seg, wLog_eq_seg, seg_next (m := min V nCh) (sub_mod_self (Nat.le_of_not_lt hVT) ▸ hi) (by omega) (by omega)]
      · rw [qw, refBefore_next f inp ws0 hT (Nat.le_of_not_lt hVT)]
      · rw [q.fin, hfull (V - T) (by omega)]; rfl
    · exact ⟨by rw [(h.retired (by omega) (by omega)).lg, Nat.min_eq_right (by omega)], fun _ => by omega⟩

theorem DI_loading (hP : FirstNonFull inp P) (hpc : s.iopc = .loading) (hp : PInv T s) (hr : RInv inp P s)
    (h : DI f inp T ws0 ispad P V s) (hs : stepIo inp ispad T s = some s') : DI f inp T ws0 ispad P V s' := by
  have ht : s.turn < T := hp.turn_lt (by simp [hpc])
  have hcur := h.cur (by omega) hpc rfl nofun
  have hov : s.over = false := hr.loading hpc
  have hposP : s.pos ≤ P := hr.pos_le hov (by simp [hpc])
  have hoth := fun n (hne : n % T ≠ s.turn) => view_stepIo_other hs hne
  have hturn := h.turn; have hpo := h.pos; have hovr := h.over; have hnexp := h.nexp; have hout := h.out; have hbuf := h.buf
  have hpos : s.pos = V := by have := hpo hov; rw [hpc] at this; exact this
  -- the buffer waits; the chunk it held before was a FULL load, as the input is not over
  have hio : ioIn s s.turn := ⟨rfl, by simp [hpc]⟩
  have hnt := (hp.bufOK ht).io_complete hio (by simp [hpc])
  have hw := (io_exclusive hp ht hio).2.not_process.1
  have hVn := nChunks_ge inp P
  obtain ⟨k3, hk⟩ := BufD_parked (by omega) hturn.symm hnt hw hcur
  obtain ⟨k2, hfin⟩ := hk (by omega)
  have k1 := hfin fun c hc => hP.2 c (by omega)
  rw [Nat.min_eq_left (by omega)] at k3
  simp only [stepIo, hpc, Option.some.injEq] at hs
  subst hs
  rw [hpc] at hovr hnexp hbuf
  refine ⟨hturn, fun _ => by simp only [lOf]; omega, fun ho => by simp [hov] at ho, hnexp, hout, fun n h1 h2 => ?_⟩
  simp only [wOf] at h1 h2
  by_cases hnV : n = V
  · subst hnV
    simp only [view] at k1 k2 k3
    simp only [BufI, hov, true_and, if_true, ← hturn]
    exact ⟨by simp [view], by simp [view, hpos], by simp [view, hpos], by simp [view, hpos, k1], k2, by simp [view, hpos], k3⟩
  · have hne : n % T ≠ s.turn := hturn ▸ win_ne h1 h2 hnV
    exact BufI_frame (hbuf n h1 h2) (hoth n hne) (by simp [hpc, hnV])

theorem DI_setRdy (hP : FirstNonFull inp P) (hpc : s.iopc = .setRdy) (hp : PInv T s) (hr : RInv inp P s)
    (h : DI f inp T ws0 ispad P V s) (hs : stepIo inp ispad T s = some s') : DI f inp T ws0 ispad P V s' := by
  have ht : s.turn < T := hp.turn_lt (by simp [hpc])
  have hpark := (io_exclusive hp ht ⟨rfl, by simp [hpc]⟩).2.not_process
  have hturn := h.turn; have hpo := h.pos; have hovr := h.over; have hnexp := h.nexp; have hout := h.out; have hbuf := h.buf
  simp only [hpc, wOf, lOf] at hpo hovr hnexp hbuf
  have hL := hbuf V (Nat.le_refl _) (by omega)
  -- the window moves from `[V, V + T)` to `[V + 1, V + 1 + T)`: entry `V` leaves it and `V + T` enters it, for the same buffer
  have hm : (V + T) % T = s.turn := by rw [Nat.add_mod_right]; exact hturn.symm
  have hoth : ∀ n, V + 1 ≤ n → n < V + T → BufI f inp T ws0 (nChunks inp P) V s' n := fun n h1 h2 =>
    BufI_frame (hbuf n (by omega) (by omega)) (view_stepIo_other hs (hturn ▸ win_ne (by omega) (by omega) (by omega)))
      (by constructor <;> intro c <;> omega)
  simp only [stepIo, hpc] at hs
  split at hs <;> cases hs <;> rename_i hl
  · -- `set_ready(true)`: load `V` carries a chunk
    have hov : s.over = false := by
      cases ho : s.over
      · rfl
      · exact absurd (hr.nodata ho hpc) hl
    have hpos := hpo hov
    obtain ⟨-, hposP, hlst⟩ := hr.loaded hov hpc
    rw [hpos, Nat.add_sub_cancel] at hlst
    simp only [BufI, hpc, hov, true_and, if_true, ← hturn] at hL
    have hVn : V < nChunks inp P := (lt_nChunks_iff hP (by omega)).2 (hlst ▸ hl)
    refine ⟨hturn, fun _ => hpos, fun ho => ?_, hnexp, hout, fun n h1 h2 => ?_⟩
    · -- the input is over with the first load that is not FULL
      have hnf : (inp V).2 ≠ .full := by rw [← hlst]; simpa using ho
      have : ¬ V < P := fun hlt => hnf (hP.2 V hlt)
      simp only [wOf]; omega
    · simp only [wOf] at h1 h2
      by_cases hnV : n = V + T
      · subst hnV
        have hd : dOf { st := .ready, total := (s.buf s.turn).total, now := (s.buf s.turn).now } (wake (s.wpc s.turn)) = 0 := by
          have := hL.now; simp only [view] at this; simp [dOf, hpark.2, this]
        simp only [BufI, reduceCtorEq, false_and, if_false, hm]
        refine ⟨fun hlt => by omega, fun _ _ => ?_, fun _ hge => by omega⟩
        rw [Nat.add_sub_cancel]
        refine ⟨Or.inl ?_, hL.cid, ?_, hL.fin, ?_, ?_, ?_⟩ <;>
          simp only [view, upd_same, hd, partOut_zero, List.take_zero, runF, List.range_zero, List.map_nil, List.append_nil]
        · exact hL.total
        · exact hL.dat
        · exact hL.w
        · exact hL.lg
      · exact hoth n h1 (by omega)
  · -- `set_ready(false)`: no chunk from `V` on
    have hl : s.lst = .nodata := by simpa using hl
    have hnt := hp.not_loaded hpc hl
    have key : nChunks inp P ≤ V ∧ P ≤ V ∧ lgOf s s.turn = wLog inp T (nChunks inp P) s.turn := by
      cases hov : s.over
      · -- this load, load `V`, brought nothing
        have hpos := hpo hov
        obtain ⟨-, hposP, hlst⟩ := hr.loaded hov hpc
        rw [hpos, Nat.add_sub_cancel] at hlst
        simp only [BufI, hpc, hov, true_and, if_true, ← hturn] at hL
        have hn : ¬ V < nChunks inp P := fun hlt => (lt_nChunks_iff hP (by omega)).1 hlt (hlst ▸ hl)
        have := nChunks_ge inp P
        exact ⟨by omega, by omega, by rw [show nChunks inp P = V by omega]; exact hL.lg⟩
      · -- no load was attempted: the buffer is as its worker left it
        have h3 := hovr hov
        have := nChunks_le inp P
        simp only [BufI, hpc, hov, reduceCtorEq, false_and, and_false, if_false, ← hturn] at hL
        have := (BufD_parked (by omega) hturn.symm hnt hpark.1 hL).1
        rw [Nat.min_eq_right (by omega)] at this
        exact ⟨by omega, by omega, this⟩
    obtain ⟨k1, k2, k3⟩ := key
    refine ⟨hturn, fun ho => by simp at ho, fun _ => by simp only [wOf]; omega, hnexp, hout, fun n h1 h2 => ?_⟩
    simp only [wOf] at h1 h2
    by_cases hnV : n = V + T
    · subst hnV
      simp only [BufI, reduceCtorEq, false_and, if_false, hm]
      exact ⟨fun hlt => by omega, fun _ hlt => by omega, fun _ _ => ⟨by simp [view], by simpa [view, lgOf] using k3⟩⟩
    · exact hoth n h1 (by omega)

theorem DI.iter_allInv (h : DI f inp T ws0 ispad P V s) (hpc : s.iopc = .iter) (hinv : (s.buf ((V + 1) % T)).st = .inv) :
    ∀ i, i < T → (s.buf i).st = .inv := by
  intro i hi
  have hbuf := h.buf
  simp only [hpc, wOf, BufI, reduceCtorEq, false_and, if_false] at hbuf
  -- visit `V + 1` finds no chunk, so neither do the later ones
  have hV := (hbuf (V + 1) (by omega) (by omega)).of_inv hinv
  obtain ⟨n, n1, n2, n3⟩ := win_exists hi (V + 1)
  exact n3 ▸ ((hbuf n n1 n2).retired (by omega) (by omega)).st

theorem DI_iter (hpc : s.iopc = .iter) (hp : PInv T s) (h : DI f inp T ws0 ispad P V s)
    (hs : stepIo inp ispad T s = some s') : DI f inp T ws0 ispad P V s' ∨ DI f inp T ws0 ispad P (V + 1) s' := by
  have ht : s.turn < T := hp.turn_lt (by simp [hpc])
  simp only [stepIo, hpc] at hs
  split at hs <;> cases hs
  · exact Or.inl (DI_iopc hpc rfl (fun _ => rfl) rfl nofun nofun h)
  · rename_i hlive
    refine Or.inr ?_
    -- a buffer is still live, so the next one is
    have hni : (s.buf ((V + 1) % T)).st ≠ .inv := fun hinv => by
      obtain ⟨k, hk, hk'⟩ := liveCount_pos_iff.1 (show 0 < liveCount T s.buf by rw [← hp.live_eq]; omega)
      exact hk' (h.iter_allInv hpc hinv k hk)
    have hturn := h.turn; have hpo := h.pos; have hovr := h.over; have hnexp := h.nexp; have hout := h.out; have hbuf := h.buf
    rw [hpc] at hpo hovr hnexp hbuf
    refine ⟨?_, hpo, hovr, hnexp, hout, fun n h1 h2 => BufI_frame (hbuf n h1 h2) rfl (by simp [hpc])⟩
    simp only [hturn]
    rw [nextTurn_first s.buf (V % T) (by omega) (by rw [Nat.mod_add_mod]; exact hni), Nat.mod_add_mod]

theorem DI_init (f : σ → Block → σ × Block) (inp : Input) (ispad : Bool) (P T : Nat) (ws0 : Nat → σ) :
    DI f inp T ws0 ispad P 0 (init T ws0) := by
  refine ⟨by simp [init], by simp [init, lOf], by simp [init], by simp [init, eOf], by simp [init, seqOut], fun n h1 h2 => ?_⟩
  simp only [init, wOf] at h1 h2
  have hn : n % T = n := Nat.mod_eq_of_lt (by omega)
  simp only [BufI, init, reduceCtorEq, false_and, if_false, hn]
  exact ⟨fun _ => ⟨rfl, rfl, (refBefore_lt f inp ws0 (by omega)).symm, rfl⟩, fun _ => by omega, fun _ => by omega⟩

theorem DI_stepIo (hP : FirstNonFull inp P) (hp : PInv T s) (hr : RInv inp P s) (h : DI f inp T ws0 ispad P V s)
    (hs : stepIo inp ispad T s = some s') : ∃ V', DI f inp T ws0 ispad P V' s' := by
  cases hpc : s.iopc
  case sleepUpd | done => simp [stepIo, hpc] at hs
  case waitUpd =>
    simp only [stepIo, hpc, Option.some.injEq] at hs
    subst hs
    exact ⟨V, by split <;> exact DI_iopc hpc rfl (fun _ => rfl) rfl nofun nofun h⟩
  case chk => exact ⟨V, DI_chk hpc hp h hs⟩
  case exporting => exact ⟨V, DI_exporting hpc hp h hs⟩
  case loadDecide =>
    simp only [stepIo, hpc] at hs
    split at hs <;> cases hs
    · -- the input is over: `pos` does not matter any more
      rename_i ho
      exact ⟨V, DI_iopc (s := { s with lst := .nodata }) hpc rfl (fun hn => by simp [ho] at hn) rfl (fun _ => ho) nofun
        (DI_lst .nodata h)⟩
    · exact ⟨V, DI_iopc hpc rfl (fun _ => rfl) rfl nofun nofun h⟩
  case loading => exact ⟨V, DI_loading hP hpc hp hr h hs⟩
  case setRdy => exact ⟨V, DI_setRdy hP hpc hp hr h hs⟩
  case iter =>
    rcases DI_iter hpc hp h hs with h | h
    · exact ⟨V, h⟩
    · exact ⟨V + 1, h⟩

theorem DI_step {tid : Option Nat} (hP : FirstNonFull inp P) (hp : PInv T s) (hr : RInv inp P s)
    (h : DI f inp T ws0 ispad P V s) (hs : step f inp ispad T s tid = some s') : ∃ V', DI f inp T ws0 ispad P V' s' := by
  rcases step_cases hs with ⟨-, hs⟩ | ⟨i, -, hi, hs⟩
  · exact DI_stepIo hP hp hr h hs
  · exact ⟨V, DI_stepW hi hp h hs⟩

/-- a spurious wake-up moves a thread between two program points that the data invariant does not distinguish -/
theorem DI_spur {tid : Option Nat} (h : DI f inp T ws0 ispad P V s) (hs : spurious T s tid = some s') :
    DI f inp T ws0 ispad P V s' := by
  rcases spurious_cases hs with ⟨-, hpc, rfl⟩ | ⟨i, -, hi, hw, rfl⟩
  · exact DI_iopc hpc rfl (fun _ => rfl) rfl nofun nofun h
  · refine ⟨h.turn, h.pos, h.over, h.nexp, h.out, fun n h1 h2 => ?_⟩
    have hn := h.buf n h1 h2
    by_cases hni : n % T = i
    · -- the woken worker was not transforming a block and is not now
      have hd : dOf (s.buf i) (wake (s.wpc i)) = dOf (s.buf i) (s.wpc i) := by rcases hw with hw | hw <;> simp [dOf, hw, wake]
      unfold BufI at hn ⊢
      rw [hni] at hn ⊢
      split at hn
      · rw [if_pos ‹_›]; exact ⟨hn.now, hn.total, hn.dat, hn.fin, hn.w, hn.cid, hn.lg⟩
      · rw [if_neg ‹_›]
        have := BufD_mono hn (Or.inl rfl) rfl hd
        simpa [view, lgOf] using this
    · exact BufI_frame hn (by simp [view, lgOf, hni]) Iff.rfl
end

end Wencry.Proofs.PipeDataInv
