/-
Where the modes meet AES: the block function of a stream object is FIPS-197 in the direction its class uses, and the pair of
objects the factory makes for a mode number is in step (`InSync`), because InvCipher inverts Cipher.
-/
import Wencry.Proofs.ModesCorrect
import Wencry.Proofs.AesCorrect
namespace Wencry.Proofs.Modes
open Wencry Wencry.Model.Modes

theorem cryptFn_eq (k : Kind) (key : Block) :
    cryptFn k key = if k.usesDecryptCore then Spec.AES.invCipher key else Spec.AES.cipher key := by
  funext b
  unfold cryptFn
  cases h : k.usesDecryptCore <;> simp [Aes.aes_encryptK, Aes.aes_decryptK, Aes.aes_encrypt_eq_spec, Aes.aes_decrypt_eq_spec]

theorem initial_sync {ctype : Nat} (key iv : Block) {ke kd : Kind} (he : factoryKind true ctype = some ke)
    (hd : factoryKind false ctype = some kd) :
    InSync { kind := ke, crypt := cryptFn ke key, iv := iv } { kind := kd, crypt := cryptFn kd key, iv := iv } :=
  factory_sync (Aes.aes_decryptK_encryptK key) he hd iv

end Wencry.Proofs.Modes
