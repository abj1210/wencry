/-
C02: the body the model of `execute_encrypt` writes is the documented one (`blkLoop_body`): the PKCS#7-padded plaintext in chunks of
B blocks dealt round-robin to T continuous streams, all started from the first 16 bytes of the first IV.
-/
import Wencry.Proofs.EncSpecInter
import Wencry.Proofs.EncryptData
import Wencry.Proofs.ModesAes
namespace Wencry.Proofs.EncSpec
open Wencry Wencry.Model Wencry.Model.File Wencry.Model.Stdio Wencry.Model.IoBuffer Wencry.Model.Modes Wencry.Proofs.Modes Wencry.Proofs.SeqLoop

theorem magic_eq : Gen.magicBytes = Spec.Wenc.magic := by decide

theorem cryptFn_enc (ctype : Nat) (k : Kind) (hk : factoryKind true ctype = some k) (key : Block) :
    cryptFn k key = Spec.AES.cipher key := by
  rw [cryptFn_eq, usesDecryptCore_enc hk]; rfl

theorem prepareAES_enc (T ctype : Nat) (key : Block) (iv : Bytes) (ss : List Stream) (hss : prepareAES T ctype key iv true = .ok ss) :
    ∃ k, factoryKind true ctype = some k ∧ ss = List.replicate T { kind := k, crypt := Spec.AES.cipher key, iv := Block.ofListD iv } := by
  obtain ⟨k, hk, rfl⟩ := FileLogic.prepareAES_eq_ok.1 hss
  exact ⟨k, hk, by rw [cryptFn_enc ctype k hk]⟩

theorem blkLoop_body {T B : Nat} (hT : 1 ≤ T) (hB : 1 ≤ B) {ctype : Nat} {key : Block} {iv : Bytes} (plain : Bytes)
    {ss : List Stream} (hss : prepareAES T ctype key iv true = .ok ss) :
    joinBlocks (blkLoop T B 0 ss (splitBlocks (Spec.Wenc.pkcs7 plain)).1) = Spec.Wenc.body T B ctype key (Block.ofListD iv) plain := by
  obtain ⟨k, hk, rfl⟩ := prepareAES_enc T ctype key iv ss hss
  rw [blkLoop]
  have hfull := Chunks.chunksOf_full hB (splitBlocks (Spec.Wenc.pkcs7 plain)).1
  unfold Spec.Wenc.body
  simp only []
  generalize Spec.Wenc.chunksOf B (splitBlocks (Spec.Wenc.pkcs7 plain)).1 = chunks at hfull ⊢
  rw [runChunks_replicate T hT, List.flatMap_def]
  -- chunk by chunk: the spec's `outs.getD (j % T)` is the run of stream `j % T` on its `streamInput` (`run_encrypt_eq`), and its
  -- drop offset `(j / T) * B` is the length of what that stream had before chunk `j` (`seg_length_self`)
  congr 2
  apply List.map_congr_left
  intro j hj
  have hjl : j < chunks.length := by simpa using hj
  have hm : j % T < T := Nat.mod_lt j (by omega)
  unfold sliceOf
  rw [seg_length_self T B hT chunks j (fun j' hj' => hfull j' (by omega))]
  congr 2
  simp only [List.getD_eq_getElem?_getD, List.getElem?_map, List.getElem?_range hm, Option.map_some, Option.getD_some]
  rw [streamInput_eq, run_encrypt_eq hk]
  rfl

set_option linter.unusedVariables false in
theorem body_eq (T B : Nat) (hT : 1 ≤ T) (hB : 1 ≤ B) (ctype : Nat) (hc : ctype ≤ 4) (key : Block) (iv : Bytes) (plain : Bytes)
    (ss : List Stream) (hss : prepareAES T ctype key iv true = .ok ss) (fout : WFile) (happ : fout.pos = fout.data.length) :
    (seqPipeline T B true ss (RFile.open plain) fout).2.2.data
      = fout.data ++ Spec.Wenc.body T B ctype key (Block.ofListD iv) plain := by
  have hssl : ss.length = T := by
    obtain ⟨k, -, rfl⟩ := prepareAES_enc T ctype key iv ss hss; exact List.length_replicate
  rw [(seqPipeline_holds hT hB hssl (holds_open plain) happ).1, written_true, blkLoop_body hT hB plain hss]

theorem ofListD_ivs (T : Nat) (hT : 1 ≤ T) (seed : Bytes) :
    Block.ofListD (Spec.Wenc.ivChain T seed).flatten = Block.ofListD ((Spec.Wenc.ivChain T seed).getD 0 []) := by
  obtain ⟨n, rfl⟩ : ∃ n, T = n + 1 := ⟨T - 1, by omega⟩
  simp only [Spec.Wenc.ivChain, List.flatten_cons, List.getD_cons_zero]
  exact Blocks.ofListD_append _ _ (by rw [HashCorrect.sha1_length]; omega)

theorem joinBlocks_nil : joinBlocks [] = [] := rfl

theorem joinBlocks_flatten (xs : List (List Block)) : joinBlocks xs.flatten = (xs.map joinBlocks).flatten :=
  Blocks.joinBlocks_flatten xs

theorem splitBlocks_snd_length (l : Bytes) : (splitBlocks l).2.length = l.length % 16 := Blocks.splitBlocks_snd_length l

theorem joinBlocks_splitBlocks (l : Bytes) : joinBlocks (splitBlocks l).1 ++ (splitBlocks l).2 = l := Blocks.joinBlocks_splitBlocks l

theorem pkcs7_length (d : Bytes) : (Spec.Wenc.pkcs7 d).length = 16 * (d.length / 16 + 1) := Chunks.pkcs7_length d

end Wencry.Proofs.EncSpec

section AxiomCheck
open Wencry.Proofs.EncSpec
#print axioms magic_eq
#print axioms Wencry.Proofs.EncryptData.getIV_eq
#print axioms body_eq
#print axioms blkLoop_body
#print axioms Wencry.Proofs.EncryptData.encrypt_data
end AxiomCheck
