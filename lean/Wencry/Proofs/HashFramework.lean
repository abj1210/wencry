/-
For C07: the `Hashmaster` block loop with its final-block routine folds the algorithm's block function over the 64-byte chunks of the
padded message, for every algorithm whose length encoder yields 8 bytes (`hl`; without it the statement is false: `badAlg`). The file
loop through `filebuffer64` is the memory loop on the bytes the buffer still holds (`fileLoop_eq`), so padding concerns the memory
loop alone.
-/
import Wencry.Model.HashBuffer
import Wencry.Spec.Hash
import Wencry.Proofs.Stdio
namespace Wencry.Proofs.HashFramework
open Wencry Wencry.Model.Hash Wencry.Model.HashBuffer Wencry.Model.Stdio Wencry.Proofs.Stdio
open Wencry.Spec.Hash (chunks64 chunksN)

/-- the padded message with the model's own length encoder -/
def padded {σ} (A : Alg σ) (m : Bytes) : Bytes :=
  m ++ [0x80] ++ List.replicate ((119 - m.length % 64) % 64) 0 ++ A.lenBytes (BitVec.ofNat 64 (8 * m.length))

theorem padded_length {σ} (A : Alg σ) (m : Bytes) (hl : ∀ n, (A.lenBytes n).length = 8) : (padded A m).length % 64 = 0 := by
  simp only [padded, List.length_append, List.length_replicate, hl, List.length_cons, List.length_nil]
  omega

theorem chunks64_of_lt (l : Bytes) (h : l.length < 64) : chunks64 l = [] := by
  have : l.length / 64 = 0 := by omega
  simp [chunks64, this, chunksN]

theorem chunks64_cons {a b : Bytes} (h : a.length = 64) : chunks64 (a ++ b) = a :: chunks64 b := by
  have e : (a ++ b).length / 64 = b.length / 64 + 1 := by
    simp only [List.length_append, h]; omega
  have h' : 64 = a.length := h.symm
  simp only [chunks64, e, chunksN]
  rw [List.take_left' h, List.drop_left' h]

theorem chunks64_single {a : Bytes} (h : a.length = 64) : chunks64 a = [a] := by
  have := chunks64_cons (b := []) h
  simpa [chunks64_of_lt [] (by simp)] using this

/-- `padded` generalised for the induction: `c` bytes consumed, `r` still to come -/
def tailPad {σ} (A : Alg σ) (c : Nat) (r : Bytes) : Bytes :=
  r ++ [0x80] ++ List.replicate ((119 - r.length % 64) % 64) 0 ++ A.lenBytes (BitVec.ofNat 64 (8 * (c + r.length)))

theorem tailPad_zero {σ} (A : Alg σ) (m : Bytes) : tailPad A 0 m = padded A m := by
  simp [tailPad, padded]

theorem tailPad_cons {σ} (A : Alg σ) (c : Nat) {blk : Bytes} (r : Bytes) (h : blk.length = 64) :
    tailPad A c (blk ++ r) = blk ++ tailPad A (c + 64) r := by
  have e1 : (blk ++ r).length % 64 = r.length % 64 := by simp only [List.length_append, h]; omega
  have e2 : c + (blk ++ r).length = c + 64 + r.length := by simp only [List.length_append, h]; omega
  simp only [tailPad, e1, e2, List.append_assoc]

theorem total_add {t : W64} {c : Nat} (n : Nat) (h : t = BitVec.ofNat 64 (8 * c)) :
    t + ((BitVec.ofNat 64 n) <<< 3) = BitVec.ofNat 64 (8 * (c + n)) := by
  subst h
  apply BitVec.eq_of_toNat_eq
  simp [BitVec.toNat_add, BitVec.toNat_shiftLeft, Nat.shiftLeft_eq]
  omega

theorem lenBE_length (n : W64) : (Model.Hash.lenBE n).length = 8 := by simp [lenBE]
theorem lenLE_length (n : W64) : (Model.Hash.lenLE n).length = 8 := by simp [lenLE]

theorem final_eq {σ} (A : Alg σ) (hl : ∀ n, (A.lenBytes n).length = 8) {s : HM σ} {c : Nat} {r : Bytes}
    (hr : r.length < 64) (ht : s.total = BitVec.ofNat 64 (8 * c)) :
    (getHashFinal A s r r.length).h = (chunks64 (tailPad A c r)).foldl A.block s.h := by
  simp only [getHashFinal, getHashBlock, total_add r.length ht, List.take_length, tailPad, Nat.mod_eq_of_lt hr]
  split
  · -- two blocks: the `119 - n` zero bytes are the `63 - n` that fill the first block and the 56 that start the second
    have e : (119 - r.length) % 64 = (63 - r.length) + 56 := by omega
    rw [e, ← List.replicate_append_replicate, ← List.append_assoc, List.append_assoc _ (List.replicate 56 0),
      chunks64_cons (by simp; omega), chunks64_single (by simp [hl])]
    rfl
  · -- one block: the first 56 bytes of the zero-filled buffer, then the length
    have e : (119 - r.length) % 64 = 55 - r.length := by omega
    have e2 : 63 - r.length = (55 - r.length) + 8 := by omega
    rw [e, e2, ← List.replicate_append_replicate, ← List.append_assoc, List.take_left' (by simp; omega),
      chunks64_single (by simp [hl]; omega)]
    rfl

theorem stringLoop_block {σ} (A : Alg σ) (s : HM σ) {blk : Bytes} (r : Bytes) (h : blk.length = 64) :
    stringLoop A s (blk ++ r) = stringLoop A (getHashBlock A s blk) r := by
  rw [stringLoop, dif_pos (by simp [h]), List.take_left' h, List.drop_left' h]

theorem stringLoop_short {σ} (A : Alg σ) (s : HM σ) {r : Bytes} (h : r.length < 64) :
    stringLoop A s r = getHashFinal A s r r.length := by
  rw [stringLoop, dif_neg (by omega)]

theorem stringLoop_gen {σ} (A : Alg σ) (hl : ∀ n, (A.lenBytes n).length = 8) (s : HM σ) (str : Bytes) :
    ∀ c, s.total = BitVec.ofNat 64 (8 * c) →
    (stringLoop A s str).h = (chunks64 (tailPad A c str)).foldl A.block s.h := by
  fun_induction stringLoop A s str with
  | case1 s str h ih =>
    intro c ht
    have hlen : (str.take 64).length = 64 := by simp [List.length_take]; omega
    rw [ih (c + 64) (total_add 64 ht)]
    conv => rhs; rw [← List.take_append_drop 64 str, tailPad_cons A c _ hlen, chunks64_cons hlen]
    rfl
  | case2 s str h =>
    intro c ht
    exact final_eq A hl (by omega) ht

theorem stringLoop_eq {σ} (A : Alg σ) (hl : ∀ n, (A.lenBytes n).length = 8) (m : Bytes) :
    (stringLoop A (reset A) m).h = (Spec.Hash.chunks64 (padded A m)).foldl A.block A.init := by
  rw [stringLoop_gen A hl (reset A) m 0 (by simp [reset]), tailPad_zero]
  rfl

theorem getStringHash_eq {σ} (A : Alg σ) (hl : ∀ n, (A.lenBytes n).length = 8) (m : Bytes) :
    getStringHash A m = A.res ((Spec.Hash.chunks64 (padded A m)).foldl A.block A.init) := by
  rw [getStringHash, stringLoop_eq A hl m]

/-- an "algorithm" whose length encoder produces 9 bytes: the model then feeds a 65-byte final block to `block`,
    whereas `chunks64` cuts the padded message (65 bytes) down to one 64-byte chunk -/
def badAlg : Alg Nat :=
  { init := 0, block := fun s b => s + b.length, lenBytes := fun _ => List.replicate 9 0, res := fun _ => [] }

/-- `stringLoop_eq` without `hl` fails for `badAlg` and the empty message: 65 ≠ 64 -/
example : (stringLoop badAlg (reset badAlg) []).h = 65
    ∧ (Spec.Hash.chunks64 (padded badAlg [])).foldl badAlg.block badAlg.init = 64 := by
  constructor
  · rw [stringLoop]; decide
  · decide

def Rem (fb : FB) : Bytes := fb.extra.getD [] ++ fb.b.drop (fb.now * 64) ++ fb.fp.data.drop fb.fp.pos

structure Inv (fb : FB) : Prop where
  hH : 1 ≤ fb.H
  htotal : fb.total = fb.b.length / 64
  htail : fb.tail = fb.b.length % 64
  hb : fb.b.length ≤ fb.H * 64
  hnow : fb.now ≤ fb.total
  /-- a short load means the file is exhausted -/
  hex : fb.b.length < fb.H * 64 → fb.fp.data.length ≤ fb.fp.pos
  hextra : ∀ e, fb.extra = some e → e.length = 64

theorem fread_spec (f : RFile) (n : Nat) :
    (f.fread n).2 = (f.data.drop f.pos).take n ∧ (f.fread n).1.data = f.data ∧
    (f.fread n).1.pos = f.pos + ((f.data.drop f.pos).take n).length := ⟨rfl, rfl, rfl⟩

theorem inv_new (H : Nat) (hH : 1 ≤ H) (fp : RFile) (pre : Option Bytes) (hpre : ∀ p, pre = some p → p.length = 64) :
    Inv (FB.new H fp pre) ∧ Rem (FB.new H fp pre) = pre.getD [] ++ fp.data.drop fp.pos ∧ (FB.new H fp pre).fp.data = fp.data := by
  refine ⟨⟨hH, rfl, rfl, ?_, Nat.zero_le _, ?_, ?_⟩, ?_, rfl⟩
  · exact fread_length_le fp (H * 64)
  · exact fread_short fp (H * 64)
  · intro e he
    cases pre with
    | none => simp [FB.new] at he
    | some p =>
      simp only [FB.new, Option.map_some, Option.some.injEq] at he
      subst he
      simp [hpre p rfl]
  · have : (FB.new H fp pre).extra.getD [] = pre.getD [] := by
      cases pre with
      | none => rfl
      | some p => simp [FB.new, List.take_of_length_le (Nat.le_of_eq (hpre p rfl))]
    simp only [Rem, this, List.append_assoc]
    congr 1
    exact fread_rem fp (H * 64)

theorem read_extra {fb : FB} {e : Bytes} (h : fb.extra = some e) : fb.read = ({ fb with extra := none }, e) := by
  simp [FB.read, h]

def refill (f : FB) : FB :=
  if f.now = f.H then
    let r := f.fp.fread (f.H * 64)
    { f with b := r.2, total := r.2.length / 64, now := 0, tail := r.2.length % 64, fp := r.1 }
  else f

theorem read_none {fb : FB} (h : fb.extra = none) :
    fb.read =
      let f := refill fb
      ({ f with tail := if f.now = f.total then 0 else f.tail, now := f.now + 1 },
        (f.b.drop (f.now * 64)).take (if f.now ≥ f.total then f.tail else 64)) := by
  unfold FB.read refill
  split
  · simp_all
  · rfl

theorem refill_spec {fb : FB} (hI : Inv fb) (hx : fb.extra = none) :
    Inv (refill fb) ∧ Rem (refill fb) = Rem fb ∧ (refill fb).now < (refill fb).H ∧ (refill fb).extra = none ∧
      (refill fb).fp.data = fb.fp.data := by
  obtain ⟨hH, htotal, htail, hb, hnow, hex, hextra⟩ := hI
  unfold refill
  split
  · next hn =>
    have hd : fb.b.drop (fb.now * 64) = [] := List.drop_eq_nil_of_le (by omega)
    refine ⟨⟨hH, rfl, rfl, fread_length_le _ _, Nat.zero_le _, fread_short fb.fp (fb.H * 64), hextra⟩, ?_, hH, hx, rfl⟩
    simp only [Rem, hd, Nat.zero_mul, List.drop_zero, List.append_nil, List.append_assoc, fread_rem]
  · next hn => exact ⟨⟨hH, htotal, htail, hb, hnow, hex, hextra⟩, rfl, by omega, hx, rfl⟩

theorem read_spec {fb : FB} (hI : Inv fb) :
    fb.read.1.fp.data = fb.fp.data ∧
    ((fb.read.2.length = 64 ∧ Rem fb = fb.read.2 ++ Rem fb.read.1 ∧ Inv fb.read.1) ∨
     (fb.read.2.length < 64 ∧ Rem fb = fb.read.2)) := by
  cases hx : fb.extra with
  | some e =>
    obtain ⟨hH, htotal, htail, hb, hnow, hex, hextra⟩ := hI
    rw [read_extra hx]
    refine ⟨rfl, Or.inl ⟨hextra e hx, ?_, ⟨hH, htotal, htail, hb, hnow, hex, ?_⟩⟩⟩
    · simp [Rem, hx]
    · intro e' he'; simp at he'
  | none =>
    obtain ⟨⟨hH, htotal, htail, hb, hnow, hex, hextra⟩, hrem, hnH, hx', hdata⟩ := refill_spec hI hx
    rw [read_none hx, ← hrem]
    generalize refill fb = f at *
    refine ⟨hdata, ?_⟩
    by_cases hlt : f.now < f.total
    · left
      have hif : ¬ (f.now ≥ f.total) := by omega
      have hif2 : ¬ (f.now = f.total) := by omega
      simp only [hif, hif2, if_false]
      refine ⟨by simp only [List.length_take, List.length_drop]; omega, ?_, ⟨hH, htotal, htail, hb, by simp only; omega, hex, hextra⟩⟩
      simp only [Rem, hx', Option.getD_none, List.nil_append]
      rw [← List.append_assoc, Nat.add_mul, Nat.one_mul, ← List.drop_drop, List.take_append_drop]
    · right
      have hif : f.now ≥ f.total := by omega
      simp only [hif, if_true]
      have hdl : (f.b.drop (f.now * 64)).length = f.tail := by
        simp only [List.length_drop]; omega
      rw [← hdl, List.take_length]
      refine ⟨by omega, ?_⟩
      have hnil : f.fp.data.drop f.fp.pos = [] := List.drop_eq_nil_of_le (hex (by omega))
      simp only [Rem, hx', Option.getD_none, List.nil_append, hnil, List.append_nil]

theorem fileLoop_eq {σ} (A : Alg σ) :
    ∀ (fuel : Nat) (s : HM σ) (fb : FB), Inv fb → (Rem fb).length / 64 + 1 ≤ fuel →
      ∃ fb', fileLoop A reader fuel s fb = some (stringLoop A s (Rem fb), fb') ∧ fb'.fp.data = fb.fp.data := by
  intro fuel
  induction fuel with
  | zero => intro s fb _ hf; omega
  | succ fuel ih =>
    intro s fb hI hf
    obtain ⟨hdata, hcase⟩ := read_spec hI
    rw [fileLoop, show reader.read fb = fb.read from rfl]
    generalize fb.read = r at hdata hcase
    obtain ⟨fb1, out⟩ := r
    rcases hcase with ⟨h64, hrem, hI1⟩ | ⟨hlt, hrem⟩
    · have hf1 : (Rem fb1).length / 64 + 1 ≤ fuel := by
        have : (Rem fb).length = 64 + (Rem fb1).length := by rw [hrem, List.length_append, h64]
        omega
      obtain ⟨fb', h1, h2⟩ := ih (getHashBlock A s out) fb1 hI1 hf1
      exact ⟨fb', by simp only [h64, ne_eq, not_true, if_false, h1, hrem, stringLoop_block A s _ h64], h2.trans hdata⟩
    · exact ⟨fb1, by simp only [hrem, if_pos (Nat.ne_of_lt hlt), stringLoop_short A s hlt], hdata⟩

/-- in particular the loop never runs out of the fuel the caller computes (`fuelFor`) -/
theorem getFileHash_eq_getStringHash {σ} (A : Alg σ) (H : Nat) (hH : 1 ≤ H) (fp : RFile)
    (pre : Option Bytes) (hpre : ∀ p, pre = some p → p.length = 64) :
    ∃ fb, getFileHash A reader (fuelFor H fp) (FB.new H fp pre)
            = some (getStringHash A (pre.getD [] ++ fp.data.drop fp.pos), fb) ∧ fb.fp.data = fp.data := by
  obtain ⟨hI, hrem, hdata⟩ := inv_new H hH fp pre hpre
  have hfuel : (Rem (FB.new H fp pre)).length / 64 + 1 ≤ fuelFor H fp := by
    have hp : (pre.getD []).length ≤ 64 := by
      cases pre with
      | none => simp
      | some p => simp [hpre p rfl]
    rw [hrem, List.length_append, List.length_drop]
    simp only [fuelFor, RFile.remaining]
    generalize (fp.data.length - fp.pos) / (H * 64) = g
    omega
  obtain ⟨fb', h1, h2⟩ := fileLoop_eq A (fuelFor H fp) (reset A) (FB.new H fp pre) hI hfuel
  exact ⟨fb', by simp only [getFileHash, h1, Option.map_some, hrem, getStringHash], h2.trans hdata⟩

/-- unknown hash numbers: both sides are the factory's NULL -/
theorem fileHash_eq_stringHash (a H : Nat) (hH : 1 ≤ H) (fp : RFile) (pre : Option Bytes) (hpre : ∀ p, pre = some p → p.length = 64) :
    ∃ fb, fileHash a reader (fuelFor H fp) (FB.new H fp pre) = (stringHash a (pre.getD [] ++ fp.data.drop fp.pos)).map (·, fb)
          ∧ fb.fp.data = fp.data :=
  match a with
  | 0 => getFileHash_eq_getStringHash Sha1.alg H hH fp pre hpre
  | 1 => getFileHash_eq_getStringHash Md5.alg H hH fp pre hpre
  | 2 => getFileHash_eq_getStringHash Sha256.alg H hH fp pre hpre
  | _ + 3 => ⟨FB.new H fp pre, rfl, rfl⟩

set_option linter.unusedVariables false in
theorem getFileHash_eq {σ} (A : Alg σ) (hl : ∀ n, (A.lenBytes n).length = 8) (H : Nat) (hH : 1 ≤ H) (fp : RFile) (hpos : fp.pos ≤ fp.data.length)
    (pre : Option Bytes) (hpre : ∀ p, pre = some p → p.length = 64)
    (hm : (pre.getD [] ++ fp.data.drop fp.pos).length < 2 ^ 61) :
    ∃ fb, getFileHash A reader (fuelFor H fp) (FB.new H fp pre)
            = some (A.res ((Spec.Hash.chunks64 (padded A (pre.getD [] ++ fp.data.drop fp.pos))).foldl A.block A.init), fb)
          ∧ fb.fp.data = fp.data := by
  rw [← getStringHash_eq A hl]
  exact getFileHash_eq_getStringHash A H hH fp pre hpre

end Wencry.Proofs.HashFramework
