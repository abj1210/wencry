/-
Every step from a state satisfying `PInv` and `RInv` lowers the lexicographic measure μ = (R, live, C, D). The reading invariant `RInv`
stands here because R is the first thing that needs it; the data invariant uses it too.
-/
import Wencry.Proofs.PipeCtl
namespace Wencry.Proofs.PipeProgress
open Wencry Wencry.Model.Pipe Wencry.Model.PipeSpurious Wencry.Model.IoBuffer Wencry.Proofs.PipeCtl

variable {σ : Type}

def sumT (T : Nat) (g : Nat → Nat) : Nat := match T with | 0 => 0 | n+1 => sumT n g + g n

theorem sumT_congr {T : Nat} {g h : Nat → Nat} (e : ∀ i, i < T → g i = h i) : sumT T g = sumT T h := by
  induction T with
  | zero => rfl
  | succ n ih => simp only [sumT]; rw [ih (fun i hi => e i (by omega)), e n (by omega)]

theorem sumT_upd (g h : Nat → Nat) {T i : Nat} (hi : i < T) (e : ∀ j, j < T → j ≠ i → g j = h j) :
    sumT T g + h i = sumT T h + g i := by
  induction T with
  | zero => omega
  | succ n ih =>
    simp only [sumT]
    by_cases hin : i = n
    · subst hin
      have : sumT i g = sumT i h := sumT_congr fun j hj => e j (by omega) (by omega)
      omega
    · have := ih (by omega) (fun j hj hne => e j (by omega) hne)
      have := e n (by omega) (fun h => hin h.symm)
      omega

/- Four components, because four kinds of step have nothing else to pay with: `set_ready(true)` (wakes a worker, makes a buffer READY)
   pays with R; `set_ready(false)` once `over` is set pays with `live`; `get_entry`, `fetch (6)` or `fetch2 (1) → process (7)`, pays with C; every
   other step lowers D, the sum of the ranks. The ranks follow the program order, except: nothing at 4 between `setUpd = 5` and
   `waitRdy = 3`, which pays for `set_update` moving the I/O thread `sleepUpd (6) → waitUpd (7)`; and a sleeper ranks below the
   point it re-tests at, so a wake-up raises D: harmless for a waker (it pays with R, `live` or the gap), and the reason why a
   spurious wake-up does not lower μ. -/
def rankW : WPc → Nat
  | .done => 0 | .fetch2 => 1 | .afterWait => 2 | .sleepRdy => 2 | .waitRdy => 3 | .setUpd => 5
  | .fetch => 6 | .process => 7 | .initSleep => 7 | .initWait => 8
def rankIo : IoPc → Nat
  | .done => 0 | .setRdy => 1 | .loading => 2 | .loadDecide => 3 | .exporting => 4 | .chk => 5
  | .sleepUpd => 6 | .waitUpd => 7 | .iter => 8

@[simp] theorem rW1 : rankW .done = 0 := rfl
@[simp] theorem rW2 : rankW .fetch2 = 1 := rfl
@[simp] theorem rW3 : rankW .afterWait = 2 := rfl
@[simp] theorem rW4 : rankW .sleepRdy = 2 := rfl
@[simp] theorem rW5 : rankW .waitRdy = 3 := rfl
@[simp] theorem rW6 : rankW .setUpd = 5 := rfl
@[simp] theorem rW7 : rankW .fetch = 6 := rfl
@[simp] theorem rW8 : rankW .process = 7 := rfl
@[simp] theorem rW9 : rankW .initSleep = 7 := rfl
@[simp] theorem rW10 : rankW .initWait = 8 := rfl
@[simp] theorem rI1 : rankIo .done = 0 := rfl
@[simp] theorem rI2 : rankIo .setRdy = 1 := rfl
@[simp] theorem rI3 : rankIo .loading = 2 := rfl
@[simp] theorem rI4 : rankIo .loadDecide = 3 := rfl
@[simp] theorem rI5 : rankIo .exporting = 4 := rfl
@[simp] theorem rI6 : rankIo .chk = 5 := rfl
@[simp] theorem rI7 : rankIo .sleepUpd = 6 := rfl
@[simp] theorem rI8 : rankIo .waitUpd = 7 := rfl
@[simp] theorem rI9 : rankIo .iter = 8 := rfl

/-- R: loads still to be acknowledged by `set_ready` (the `+ 1` at `setRdy`): it is `setRdy → iter` that raises the other components.
    `P + 1 - pos`, not `P - pos`: load `P`, the first that is not FULL, is still issued and acknowledged. -/
def mR (P : Nat) (s : St σ) : Nat := if s.over then 0 else (P + 1 - s.pos) + (if s.iopc = .setRdy then 1 else 0)
def contrib (b : Buf) : Nat := if b.st = .ready then b.total - b.now else 0
def mC (T : Nat) (s : St σ) : Nat := sumT T fun i => if (s.buf i).st = .ready then (s.buf i).total - (s.buf i).now else 0

theorem mC_eq (T : Nat) (s : St σ) : mC T s = sumT T (fun i => contrib (s.buf i)) := rfl

def mD (T : Nat) (s : St σ) : Nat := sumT T (fun i => rankW (s.wpc i)) + rankIo s.iopc

def lt4 (a b : Nat × Nat × Nat × Nat) : Prop :=
  a.1 < b.1 ∨ (a.1 = b.1 ∧ (a.2.1 < b.2.1 ∨ (a.2.1 = b.2.1 ∧ (a.2.2.1 < b.2.2.1 ∨ (a.2.2.1 = b.2.2.1 ∧ a.2.2.2 < b.2.2.2)))))

def mu (P T : Nat) (s : St σ) : Nat × Nat × Nat × Nat := (mR P s, s.live, mC T s, mD T s)

/-- `P` is the index of the first load that is not FULL (the input is finite) -/
def FirstNonFull (inp : Input) (P : Nat) : Prop := (inp P).2 ≠ .full ∧ ∀ p, p < P → (inp p).2 = .full

/-- the measure needs `loading`, `pos_le` and `nodata`; `loading` and `loaded` are what `DI` needs, and `loaded` keeps `pos_le` true
    after `setRdy` -/
structure RInv (inp : Input) (P : Nat) (s : St σ) : Prop where
  loading : s.iopc = .loading → s.over = false
  pos_le : s.over = false → s.iopc ≠ .setRdy → s.pos ≤ P
  loaded : s.over = false → s.iopc = .setRdy → 1 ≤ s.pos ∧ s.pos ≤ P + 1 ∧ s.lst = (inp (s.pos - 1)).2
  nodata : s.over = true → s.iopc = .setRdy → s.lst = .nodata

section
variable {f : σ → Block → σ × Block} {inp : Input} {ispad : Bool} {P T i : Nat} {s s' : St σ} {tid : Option Nat}

theorem RInv_init (inp : Input) (P T : Nat) (ws0 : Nat → σ) : RInv inp P (init T ws0) := by
  constructor <;> simp [init]

theorem RInv_stepW (h : RInv inp P s) (hs : stepW f s i = some s') : RInv inp P s' := by
  have fr := stepW_frame hs
  have e1 : s'.iopc = .loading ↔ s.iopc = .loading := fr.iopc_eq nofun nofun
  have e2 : s'.iopc = .setRdy ↔ s.iopc = .setRdy := fr.iopc_eq nofun nofun
  exact ⟨by rw [e1, fr.over]; exact h.loading, by simp only [fr.over, ne_eq, e2, fr.pos]; exact h.pos_le,
    by rw [fr.over, e2, fr.pos, fr.lst]; exact h.loaded, by rw [fr.over, e2, fr.lst]; exact h.nodata⟩

theorem RInv_stepIo (hP : FirstNonFull inp P) (h : RInv inp P s) (hs : stepIo inp ispad T s = some s') : RInv inp P s' := by
  have hloading := h.loading; have hpos_le := h.pos_le; have hloaded := h.loaded; have hnodata := h.nodata
  cases hpc : s.iopc <;> simp only [stepIo, hpc] at hs
  case setRdy =>
    split at hs <;> cases hs
    · -- after a load with data the input goes on only if that load was FULL, and then it was not load `P`
      refine ⟨nofun, fun hov _ => ?_, nofun, nofun⟩
      cases ho : s.over
      · obtain ⟨a, b, c⟩ := hloaded ho hpc
        have : s.pos - 1 ≠ P := fun e => hP.1 (by simpa [c, e] using hov)
        simp only []; omega
      · simp_all
    · exact ⟨nofun, by simp, nofun, nofun⟩
  -- the other steps leave `over`, `pos`, `lst` alone, except `loading` (`pos + 1`, then `loaded`) and `loadDecide` (NODATA when `over`)
  -- most of the four clauses fall to the reduction of the updated record alone; `simp_all` brings in `RInv` for the rest
  all_goals (try split at hs) <;> cases hs <;> constructor <;> simp [hpc] <;> simp_all

theorem RInv_step (hP : FirstNonFull inp P) (h : RInv inp P s) (hs : step f inp ispad T s tid = some s') : RInv inp P s' := by
  rcases step_cases hs with ⟨-, hs⟩ | ⟨i, -, -, hs⟩
  · exact RInv_stepIo hP h hs
  · exact RInv_stepW h hs

theorem RInv_spur (h : RInv inp P s) (hs : spurious T s tid = some s') : RInv inp P s' := by
  rcases spurious_cases hs with ⟨-, hpc, rfl⟩ | ⟨i, -, hi, hw, rfl⟩
  · have hloading := h.loading; have hpos_le := h.pos_le; have hloaded := h.loaded; have hnodata := h.nodata
    constructor <;> simp_all
  · exact ⟨h.loading, h.pos_le, h.loaded, h.nodata⟩

theorem stepW_local (hb : BufOK s i) (hs : stepW f s i = some s') :
    contrib (s'.buf i) < contrib (s.buf i) ∨
    (contrib (s'.buf i) = contrib (s.buf i) ∧ rankW (s'.wpc i) + rankIo s'.iopc < rankW (s.wpc i) + rankIo s.iopc) := by
  simp only [BufOK, ioIn] at hb
  have hst := BSt_cases (s.buf i).st
  cases hpc : s.wpc i <;> simp only [stepW, hpc] at hs <;> (try split at hs) <;> cases hs
  all_goals (
    simp only [upd_same, contrib, rankW, rankIo]
    grind)

theorem stepW_decreases (hi : i < T) (h : PInv T s) (hs : stepW f s i = some s') : lt4 (mu P T s') (mu P T s) := by
  have fr := stepW_frame hs
  have hR : mR P s' = mR P s := by simp only [mR, fr.over, fr.pos, fr.iopc_eq (pc := .setRdy) nofun nofun]
  have hC := sumT_upd (fun j => contrib (s'.buf j)) (fun j => contrib (s.buf j)) hi fun j _ hj => by rw [(fr.other j hj).1]
  have hD := sumT_upd (fun j => rankW (s'.wpc j)) (fun j => rankW (s.wpc j)) hi fun j _ hj => by rw [(fr.other j hj).2.1]
  have := stepW_local (h.bufOK hi) hs
  simp only [lt4, mu, hR, fr.live, mC_eq, mD, Nat.lt_irrefl, false_or, true_and] at hC hD ⊢
  omega

theorem stepIo_local (h : PInv T s) (hr : RInv inp P s) (hs : stepIo inp ispad T s = some s') :
    lt4 (mR P s', s'.live, contrib (s'.buf s.turn), rankW (s'.wpc s.turn) + rankIo s'.iopc)
      (mR P s, s.live, contrib (s.buf s.turn), rankW (s.wpc s.turn) + rankIo s.iopc) := by
  cases hpc : s.iopc <;> simp only [stepIo, hpc] at hs
  case sleepUpd | done => cases hs
  case setRdy =>
    have ht := h.turn_lt (by simp [hpc])
    have hbt := h.bufOK ht
    have hlive := fun hne => (liveCount_pos_iff (T := T) (f := s.buf)).2 ⟨s.turn, ht, hne⟩
    have hl := h.live_eq
    have j4 := hr.nodata
    simp only [BufOK, ioIn, hpc] at hbt
    split at hs <;> cases hs
    all_goals
      simp only [lt4, mR, upd_same, contrib, rankW, rankIo]
      grind [wake]
  case loading =>
    -- R stays only because `pos ≤ P` (truncated subtraction)
    cases hs
    have hov := hr.loading hpc
    have hpos := hr.pos_le hov (by simp [hpc])
    have hbt := h.bufOK (h.turn_lt (by simp [hpc]))
    simp only [BufOK, ioIn, hpc] at hbt
    simp only [lt4, mR, upd_same, contrib, rankW, rankIo]
    grind
  -- the other steps lower D alone and need no row of the table (giving it to `grind` everywhere is shorter to write and dearer to check)
  all_goals
    (try split at hs) <;> cases hs
    all_goals
      simp only [lt4, mR, contrib, rankW, rankIo]
      grind

theorem stepIo_decreases (h : PInv T s) (hr : RInv inp P s) (hs : stepIo inp ispad T s = some s') :
    lt4 (mu P T s') (mu P T s) := by
  have fr := stepIo_frame hs
  have ht := h.turn_lt_of_stepIo hs
  have hC := sumT_upd (fun j => contrib (s'.buf j)) (fun j => contrib (s.buf j)) ht fun j _ hj => by rw [(fr.other j hj).1]
  have hD := sumT_upd (fun j => rankW (s'.wpc j)) (fun j => rankW (s.wpc j)) ht fun j _ hj => by rw [(fr.other j hj).2.1]
  have := stepIo_local h hr hs
  simp only [lt4, mu, mC_eq, mD] at this hC hD ⊢
  omega

theorem step_decreases (hp : PInv T s) (hr : RInv inp P s) (hs : step f inp ispad T s tid = some s') :
    lt4 (mu P T s') (mu P T s) := by
  rcases step_cases hs with ⟨-, hs⟩ | ⟨i, -, hi, hs⟩
  · exact stepIo_decreases hp hr hs
  · exact stepW_decreases hi hp hs
end

/-- the lexicographic order on pairs, written out with `∨` and `∧`, is well-founded when its components are -/
theorem lexOr_wf {α β : Type} {r : α → α → Prop} {q : β → β → Prop} (hr : WellFounded r) (hq : WellFounded q) :
    WellFounded (fun a b : α × β => r a.1 b.1 ∨ (a.1 = b.1 ∧ q a.2 b.2)) := by
  apply Subrelation.wf _ (Prod.lex ⟨r, hr⟩ ⟨q, hq⟩).wf
  rintro ⟨a1, a2⟩ ⟨b1, b2⟩ (h | ⟨rfl, h⟩)
  · exact Prod.Lex.left _ _ h
  · exact Prod.Lex.right _ h

theorem lt4_wf : WellFounded (fun a b : Nat × Nat × Nat × Nat => lt4 a b) :=
  lexOr_wf Nat.lt_wfRel.wf (lexOr_wf Nat.lt_wfRel.wf (lexOr_wf Nat.lt_wfRel.wf Nat.lt_wfRel.wf))

theorem no_infinite_descent {S E M : Type} (st : S → E → Option S) (R : S → Prop) (μ : S → M) (lt : M → M → Prop)
    (wf : WellFounded lt) (good : E → Prop)
    (hR : ∀ s s' e, R s → st s e = some s' → R s')
    (hdec : ∀ s s' e, R s → good e → st s e = some s' → lt (μ s') (μ s))
    (run : Nat → S) (evs : Nat → E) (h0 : R (run 0)) (hstep : ∀ n, st (run n) (evs n) = some (run (n + 1)))
    (N : Nat) (hfin : ∀ n, N ≤ n → good (evs n)) : False := by
  have hreach : ∀ n, R (run n) := fun n => by
    induction n with
    | zero => exact h0
    | succ k ih => exact hR _ _ _ ih (hstep k)
  have key : ∀ m, ∀ n, N ≤ n → μ (run n) = m → False := fun m => by
    induction m using wf.induction with
    | _ m ih =>
      intro n hN hn
      exact ih _ (hn ▸ hdec _ _ _ (hreach n) (hfin n hN) (hstep n)) (n + 1) (by omega) rfl
  exact key _ N (Nat.le_refl _) rfl

end Wencry.Proofs.PipeProgress

section AxiomCheck
open Wencry.Proofs.PipeProgress
#print axioms no_infinite_descent
end AxiomCheck
