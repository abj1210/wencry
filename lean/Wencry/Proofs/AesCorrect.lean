/-
C09: the model of aes.cpp equals FIPS-197 for every key and block, and decryption inverts encryption. `gfmul` by a constant is a
polynomial in `xtime`, hence InvCipher inverts Cipher; a row of four bytes is the number a + 2^8 b + 2^16 c + 2^24 d, so that
projections and rotations are arithmetic; each operation of the code commutes with `load`.
-/
import Wencry.Model.Aes
import Wencry.Spec.AES
namespace Wencry.Proofs.Aes
open Wencry

section Field
open Wencry.Spec.AES

theorem xor_cancel_left (a b : BitVec w) : a ^^^ (a ^^^ b) = b := by
  rw [← BitVec.xor_assoc, BitVec.xor_self, BitVec.zero_xor]

theorem xtime_zero : xtime 0#8 = 0#8 := by decide

theorem xtime_xor (a b : Byte) : xtime (a ^^^ b) = xtime a ^^^ xtime b := by
  simp only [xtime, BitVec.shiftLeft_xor_distrib, BitVec.msb_xor]
  cases a.msb <;> cases b.msb <;> simp
  · ac_rfl
  · ac_rfl
  · ac_nf; simp only [xor_cancel_left]  -- both operands overflow: the two 0x1b cancel

theorem gfmulAux_xor (k : Nat) : ∀ a b c : Byte, gfmulAux k a (b ^^^ c) = gfmulAux k a b ^^^ gfmulAux k a c := by
  induction k with
  | zero => intro a b c; simp [gfmulAux]
  | succ k ih =>
    intro a b c
    simp only [gfmulAux, BitVec.getLsbD_xor, BitVec.ushiftRight_xor_distrib, ih]
    generalize gfmulAux k (xtime a) (b >>> 1) = X
    generalize gfmulAux k (xtime a) (c >>> 1) = Y
    cases b.getLsbD 0 <;> cases c.getLsbD 0 <;> simp
    · ac_rfl
    · ac_rfl
    · have h : a ^^^ X ^^^ (a ^^^ Y) = (a ^^^ a) ^^^ (X ^^^ Y) := by ac_rfl
      rw [h, BitVec.xor_self, BitVec.zero_xor]

theorem gfmulAux_xor_left (k : Nat) : ∀ a a' b : Byte,
    gfmulAux k (a ^^^ a') b = gfmulAux k a b ^^^ gfmulAux k a' b := by
  induction k with
  | zero => intro a a' b; simp [gfmulAux]
  | succ k ih =>
    intro a a' b
    simp only [gfmulAux, xtime_xor, ih]
    cases b.getLsbD 0 <;> simp
    ac_rfl

theorem gfmulAux_xtime_left (k : Nat) : ∀ a b : Byte, gfmulAux k (xtime a) b = xtime (gfmulAux k a b) := by
  induction k with
  | zero => intro a b; simp [gfmulAux, xtime_zero]
  | succ k ih =>
    intro a b
    simp only [gfmulAux, xtime_xor, ih]
    cases b.getLsbD 0 <;> simp [xtime_zero]

theorem gfmul_xor (a b c : Byte) : gfmul a (b ^^^ c) = gfmul a b ^^^ gfmul a c := gfmulAux_xor 8 a b c
theorem gfmul_xor_left (a a' b : Byte) : gfmul (a ^^^ a') b = gfmul a b ^^^ gfmul a' b := gfmulAux_xor_left 8 a a' b
theorem gfmul_xtime_left (a b : Byte) : gfmul (xtime a) b = xtime (gfmul a b) := gfmulAux_xtime_left 8 a b
theorem gfmul_zero (a : Byte) : gfmul a 0 = 0 := by simpa using gfmul_xor a 0 0
theorem gfmul_one_left : ∀ v : Byte, gfmul 1 v = v := by decide +kernel

theorem gfmul_2 (v : Byte) : gfmul 2 v = xtime v := by
  rw [show (2 : Byte) = xtime 1 from rfl, gfmul_xtime_left, gfmul_one_left]
theorem gfmul_3 (v : Byte) : gfmul 3 v = xtime v ^^^ v := by
  rw [show (3 : Byte) = xtime 1 ^^^ 1 from rfl, gfmul_xor_left, gfmul_xtime_left, gfmul_one_left]
theorem gfmul_9 (v : Byte) : gfmul 9 v = xtime (xtime (xtime v)) ^^^ v := by
  rw [show (9 : Byte) = xtime (xtime (xtime 1)) ^^^ 1 from rfl]
  simp only [gfmul_xor_left, gfmul_xtime_left, gfmul_one_left]
theorem gfmul_11 (v : Byte) : gfmul 11 v = xtime (xtime (xtime v)) ^^^ xtime v ^^^ v := by
  rw [show (11 : Byte) = xtime (xtime (xtime 1)) ^^^ xtime 1 ^^^ 1 from rfl]
  simp only [gfmul_xor_left, gfmul_xtime_left, gfmul_one_left]
theorem gfmul_13 (v : Byte) : gfmul 13 v = xtime (xtime (xtime v)) ^^^ xtime (xtime v) ^^^ v := by
  rw [show (13 : Byte) = xtime (xtime (xtime 1)) ^^^ xtime (xtime 1) ^^^ 1 from rfl]
  simp only [gfmul_xor_left, gfmul_xtime_left, gfmul_one_left]
theorem gfmul_14 (v : Byte) : gfmul 14 v = xtime (xtime (xtime v)) ^^^ xtime (xtime v) ^^^ xtime v := by
  rw [show (14 : Byte) = xtime (xtime (xtime 1)) ^^^ xtime (xtime 1) ^^^ xtime 1 from rfl]
  simp only [gfmul_xor_left, gfmul_xtime_left, gfmul_one_left]

end Field

section SpecInverse
open Wencry.Spec.AES

/-- §5.3.3 a⁻¹(x)·a(x) = 1 holds with the constants read as polynomials in `xtime`, before any reduction modulo m(x)
    (no product reaches degree 8): once they are written out and `xtime` is distributed over `^^^`, every term of
    row i but `aᵢ` occurs an even number of times -/
theorem invMixColumn_mixColumn (a0 a1 a2 a3 : Byte) :
    invMixColumn (mixColumn a0 a1 a2 a3).1 (mixColumn a0 a1 a2 a3).2.1 (mixColumn a0 a1 a2 a3).2.2.1
      (mixColumn a0 a1 a2 a3).2.2.2 = (a0, a1, a2, a3) := by
  simp only [mixColumn, invMixColumn, gfmul_2, gfmul_3, gfmul_9, gfmul_11, gfmul_13, gfmul_14, xtime_xor]
  -- `ac_nf` puts equal terms side by side (sorting the 66 terms of a row with `simp` runs out of heartbeats)
  ac_nf
  simp only [xor_cancel_left, BitVec.xor_self, BitVec.xor_zero]
theorem mixColumn_invMixColumn (a0 a1 a2 a3 : Byte) :
    mixColumn (invMixColumn a0 a1 a2 a3).1 (invMixColumn a0 a1 a2 a3).2.1 (invMixColumn a0 a1 a2 a3).2.2.1
      (invMixColumn a0 a1 a2 a3).2.2.2 = (a0, a1, a2, a3) := by
  simp only [mixColumn, invMixColumn, gfmul_2, gfmul_3, gfmul_9, gfmul_11, gfmul_13, gfmul_14, xtime_xor]
  ac_nf
  simp only [xor_cancel_left, BitVec.xor_self, BitVec.xor_zero]

theorem invMixColumns_mixColumns (s : Block) : invMixColumns (mixColumns s) = s := by
  cases s; simp only [mixColumns, invMixColumns, invMixColumn_mixColumn]
theorem mixColumns_invMixColumns (s : Block) : mixColumns (invMixColumns s) = s := by
  cases s; simp only [mixColumns, invMixColumns, mixColumn_invMixColumn]

theorem invSbox_sbox : ∀ x : Byte, invSbox (sbox x) = x := by
  rw [sbox_eq_sboxFast, invSbox_eq_invSboxFast]; decide +kernel
theorem sbox_invSbox : ∀ x : Byte, sbox (invSbox x) = x := by
  rw [sbox_eq_sboxFast, invSbox_eq_invSboxFast]; decide +kernel

theorem invSubBytes_subBytes (s : Block) : invSubBytes (subBytes s) = s := by
  cases s; simp [invSubBytes, subBytes, Block.map, invSbox_sbox]
theorem subBytes_invSubBytes (s : Block) : subBytes (invSubBytes s) = s := by
  cases s; simp [invSubBytes, subBytes, Block.map, sbox_invSbox]
theorem invShiftRows_shiftRows (s : Block) : invShiftRows (shiftRows s) = s := rfl
theorem shiftRows_invShiftRows (s : Block) : shiftRows (invShiftRows s) = s := rfl
theorem addRoundKey_cancel (s k : Block) : addRoundKey (addRoundKey s k) k = s := Block.xor_xor_cancel_right s k

-- once both 9-folds are unrolled, each operation of Cipher stands next to its inverse, from the inside out
theorem spec_invCipher_cipher (key blk : Block) : Spec.AES.invCipher key (Spec.AES.cipher key blk) = blk := by
  simp [cipher, invCipher, round, invRound, List.range, List.range.loop, List.foldl, addRoundKey_cancel,
    invShiftRows_shiftRows, invSubBytes_subBytes, invMixColumns_mixColumns]
theorem spec_cipher_invCipher (key blk : Block) : Spec.AES.cipher key (Spec.AES.invCipher key blk) = blk := by
  simp [cipher, invCipher, round, invRound, List.range, List.range.loop, List.foldl, addRoundKey_cancel,
    shiftRows_invShiftRows, subBytes_invSubBytes, mixColumns_invMixColumns]

end SpecInverse

theorem sboxT_eq_spec : ∀ x : Byte, Gen.sboxT x = Spec.AES.sbox x := by
  rw [Spec.AES.sbox_eq_sboxFast]; decide +kernel
theorem rsboxT_eq_spec : ∀ x : Byte, Gen.rsboxT x = Spec.AES.invSbox x := by
  rw [Spec.AES.invSbox_eq_invSboxFast]; decide +kernel
theorem sboxT_rsboxT (x : Byte) : Gen.sboxT (Gen.rsboxT x) = x := by
  rw [rsboxT_eq_spec, sboxT_eq_spec, sbox_invSbox]

section Gmul
open Wencry.Model.Aes Wencry.Gen Wencry.Spec.AES

/-! The antilog table lists the powers of the generator {03} (past 255, so that two logarithms add unreduced), and the
    log table inverts it. Entries past 492 = 238 + 254 (largest logarithm `decColumnmix` passes + largest value in
    `logT`) are never read. -/
theorem alogTN_succ : ∀ n, n < 492 → alogTN (n + 1) = xtime (alogTN n) ^^^ alogTN n := by decide +kernel
theorem alogTN_logT : ∀ v : Byte, v ≠ 0 → (logT v).toNat ≤ 254 ∧ alogTN (logT v).toNat = v := by decide +kernel

theorem gfmul_alogTN (u : Nat) : ∀ l, u + l ≤ 492 → gfmul (alogTN u) (alogTN l) = alogTN (u + l) := by
  induction u with
  | zero => intro l _; rw [show alogTN 0 = 1 from rfl, gfmul_one_left, Nat.zero_add]
  | succ u ih =>
    intro l h
    rw [alogTN_succ u (by omega), gfmul_xor_left, gfmul_xtime_left, ih l (by omega), ← alogTN_succ (u + l) (by omega),
      Nat.add_right_comm]

theorem gmul_eq_gfmul (u : Nat) (hu : u + 254 ≤ 492) (v : Byte) : gmul u v = gfmul (alogTN u) v := by
  by_cases hv : v = 0
  · rw [hv, gfmul_zero]; rfl
  · have ⟨hl, hv'⟩ := alogTN_logT v hv
    rw [gmul, if_pos hv, ← gfmul_alogTN u _ (by omega), hv']

/-! the logarithms that `*_columnmix` pass are those of the MixColumns and InvMixColumns constants -/
theorem gmul_25 (v : Byte) : gmul 25 v = gfmul 2 v := gmul_eq_gfmul 25 (by decide) v
theorem gmul_1 (v : Byte) : gmul 1 v = gfmul 3 v := gmul_eq_gfmul 1 (by decide) v
theorem gmul_0 (v : Byte) : gmul 0 v = v := (gmul_eq_gfmul 0 (by decide) v).trans (gfmul_one_left v)
theorem gmul_223 (v : Byte) : gmul 223 v = gfmul 0x0e v := gmul_eq_gfmul 223 (by decide) v
theorem gmul_104 (v : Byte) : gmul 104 v = gfmul 0x0b v := gmul_eq_gfmul 104 (by decide) v
theorem gmul_238 (v : Byte) : gmul 238 v = gfmul 0x0d v := gmul_eq_gfmul 238 (by decide) v
theorem gmul_199 (v : Byte) : gmul 199 v = gfmul 0x09 v := gmul_eq_gfmul 199 (by decide) v

end Gmul

theorem rc_eq_rcon : ∀ i, 1 ≤ i → i ≤ 10 → Model.Aes.rc i = Spec.AES.rcon i := by
  intro i h1 h2
  have : ∀ j : Fin 11, 1 ≤ j.val → Model.Aes.rc j.val = Spec.AES.rcon j.val := by decide +kernel
  exact this ⟨i, by omega⟩ h1

section ModelVsSpec
open Wencry.Model.Aes

theorem toNat_setbytes (a b c d : Byte) :
    (setbytes a b c d).toNat = a.toNat + 2 ^ 8 * b.toNat + 2 ^ 16 * c.toNat + 2 ^ 24 * d.toNat := toNat_pack4 a b c d

theorem toNat_u8 (x : W32) : (u8 x).toNat = x.toNat % 2 ^ 8 := by simp [u8]
theorem toNat_u8_shr (x : W32) (k : Nat) : (u8 (x >>> k)).toNat = x.toNat / 2 ^ k % 2 ^ 8 := by
  rw [toNat_u8, BitVec.toNat_ushiftRight, Nat.shiftRight_eq_div_pow]

theorem toNat_rrot (x : W32) (i : Nat) (hi : i < 32) :
    (rrot x i).toNat = x.toNat / 2 ^ i + x.toNat % 2 ^ i * 2 ^ (32 - i) := by
  have hlt : x.toNat >>> i < 2 ^ (32 - i) := by
    rw [Nat.shiftRight_eq_div_pow, Nat.div_lt_iff_lt_mul (Nat.two_pow_pos i), ← Nat.pow_add, Nat.sub_add_cancel (by omega)]
    exact x.isLt
  have hm : x.toNat <<< (32 - i) % 2 ^ 32 = (x.toNat % 2 ^ i) <<< (32 - i) := by
    rw [Nat.shiftLeft_eq, Nat.shiftLeft_eq]
    conv => lhs; rw [show 2 ^ 32 = 2 ^ i * 2 ^ (32 - i) by rw [← Nat.pow_add]; congr 1; omega]
    rw [Nat.mul_mod_mul_right]
  rw [rrot, BitVec.toNat_or, BitVec.toNat_ushiftRight, BitVec.toNat_shiftLeft, hm, Nat.or_comm,
    ← Nat.shiftLeft_add_eq_or_of_lt hlt, Nat.shiftLeft_eq, Nat.shiftRight_eq_div_pow, Nat.add_comm]

theorem u8_setbytes0 (a b c d : Byte) : u8 (setbytes a b c d) = a := pack4_byte0 a b c d
theorem u8_setbytes1 (a b c d : Byte) : u8 (setbytes a b c d >>> 8) = b := pack4_byte1 a b c d
theorem u8_setbytes2 (a b c d : Byte) : u8 (setbytes a b c d >>> 16) = c := pack4_byte2 a b c d
theorem u8_setbytes3 (a b c d : Byte) : u8 (setbytes a b c d >>> 24) = d := pack4_byte3 a b c d
theorem rrot8 (a b c d : Byte) : rrot (setbytes a b c d) 8 = setbytes b c d a := by
  apply BitVec.eq_of_toNat_eq
  rw [toNat_rrot _ 8 (by omega), toNat_setbytes, toNat_setbytes]; omega
theorem rrot16 (a b c d : Byte) : rrot (setbytes a b c d) 16 = setbytes c d a b := by
  apply BitVec.eq_of_toNat_eq
  rw [toNat_rrot _ 16 (by omega), toNat_setbytes, toNat_setbytes]; omega
theorem rrot24 (a b c d : Byte) : rrot (setbytes a b c d) 24 = setbytes d a b c := by
  apply BitVec.eq_of_toNat_eq
  rw [toNat_rrot _ 24 (by omega), toNat_setbytes, toNat_setbytes]; omega
theorem lrot_eq_rrot (x : W32) (i : Nat) (h : i ≤ 32) : lrot x i = rrot x (32 - i) := by
  rw [lrot, rrot, BitVec.or_comm, Nat.sub_sub_self h]
theorem setbytes_u8 (r : W32) : setbytes (u8 r) (u8 (r >>> 8)) (u8 (r >>> 16)) (u8 (r >>> 24)) = r := by
  apply BitVec.eq_of_toNat_eq
  rw [toNat_setbytes, toNat_u8, toNat_u8_shr, toNat_u8_shr, toNat_u8_shr]; omega
theorem u8_xor (x y : W32) : u8 (x ^^^ y) = u8 x ^^^ u8 y := by simp [u8]
theorem setbytes_xor (a b c d a' b' c' d' : Byte) :
    setbytes a b c d ^^^ setbytes a' b' c' d' = setbytes (a ^^^ a') (b ^^^ b') (c ^^^ c') (d ^^^ d') := by
  rw [← setbytes_u8 (setbytes a b c d ^^^ setbytes a' b' c' d')]
  simp only [BitVec.ushiftRight_xor_distrib, u8_xor, u8_setbytes0, u8_setbytes1, u8_setbytes2, u8_setbytes3]

theorem sget0 (a b c d : Byte) : sget (setbytes a b c d) 0 = a := by simp [sget, u8_setbytes0]
theorem sget1 (a b c d : Byte) : sget (setbytes a b c d) 1 = b := by simp [sget, u8_setbytes1]
theorem sget2 (a b c d : Byte) : sget (setbytes a b c d) 2 = c := by simp [sget, u8_setbytes2]
theorem sget3 (a b c d : Byte) : sget (setbytes a b c d) 3 = d := by simp [sget, u8_setbytes3]

theorem store_load (b : Block) : store (load b) = b := by
  cases b; simp [store, load, sget0, sget1, sget2, sget3]
theorem load_store (r : Rows) : load (store r) = r := by
  cases r; simp [store, load, sget, setbytes_u8]

theorem subWord_setbytes (box : Byte → Byte) (a b c d : Byte) :
    subWord box (setbytes a b c d) = setbytes (box a) (box b) (box c) (box d) := by
  simp [subWord, u8_setbytes0, u8_setbytes1, u8_setbytes2, u8_setbytes3]

theorem encSubbytes_load (b : Block) : encSubbytes (load b) = load (Spec.AES.subBytes b) := by
  simp [encSubbytes, load, Spec.AES.subBytes, Block.map, subWord_setbytes, sboxT_eq_spec]
theorem decSubbytes_load (b : Block) : decSubbytes (load b) = load (Spec.AES.invSubBytes b) := by
  simp [decSubbytes, load, Spec.AES.invSubBytes, Block.map, subWord_setbytes, rsboxT_eq_spec]
theorem encRowshift_load (b : Block) : encRowshift (load b) = load (Spec.AES.shiftRows b) := by
  simp [encRowshift, load, Spec.AES.shiftRows, rrot8, rrot16, rrot24]
theorem decRowshift_load (b : Block) : decRowshift (load b) = load (Spec.AES.invShiftRows b) := by
  simp [decRowshift, load, Spec.AES.invShiftRows, lrot_eq_rrot, rrot8, rrot16, rrot24]
theorem addroundkey_load (a k : Block) : addroundkey (load a) (load k) = load (Spec.AES.addRoundKey a k) := by
  simp [addroundkey, load, Spec.AES.addRoundKey, Block.xor, setbytes_xor]
theorem encColumnmix_load (b : Block) : encColumnmix (load b) = load (Spec.AES.mixColumns b) := by
  simp [encColumnmix, columnmix, gmumLine, load, Spec.AES.mixColumns, Spec.AES.mixColumn,
    u8_setbytes0, u8_setbytes1, u8_setbytes2, u8_setbytes3, gmul_25, gmul_1, gmul_0]
theorem decColumnmix_load (b : Block) : decColumnmix (load b) = load (Spec.AES.invMixColumns b) := by
  simp [decColumnmix, columnmix, gmumLine, load, Spec.AES.invMixColumns, Spec.AES.invMixColumn,
    u8_setbytes0, u8_setbytes1, u8_setbytes2, u8_setbytes3, gmul_223, gmul_104, gmul_238, gmul_199]

theorem genkey_load (i : Nat) (h1 : 1 ≤ i) (h2 : i ≤ 10) (k : Block) :
    genkey i (load k) = load (Spec.AES.nextKey i k) := by
  simp [genkey, load, Spec.AES.nextKey, sget0, sget1, sget2, sget3, sboxT_eq_spec, rc_eq_rcon i h1 h2]
  -- what is left in each row is the order of the XORs: the code computes `sbox ^ rc ^ old` and `prev ^ old`,
  -- the standard `old ^ sbox ^ rcon` and `old ^ prev`
  refine ⟨?_, ?_, ?_, ?_⟩ <;> congr 1 <;> ac_rfl

theorem getKey_eq (key : Block) : ∀ i, i ≤ 10 → getKey key i = load (Spec.AES.roundKey key i)
  | 0, _ => rfl
  | i + 1, h => by
    rw [getKey, getKey_eq key i (by omega), genkey_load (i + 1) (by omega) h, Spec.AES.roundKey]

theorem encCommonround_load (s k : Block) :
    encCommonround (load s) (load k)
      = load (Spec.AES.mixColumns (Spec.AES.shiftRows (Spec.AES.subBytes (Spec.AES.addRoundKey s k)))) := by
  rw [encCommonround, addroundkey_load, encSubbytes_load, encRowshift_load, encColumnmix_load]
theorem encSpecround_load (s k1 k2 : Block) :
    encSpecround (load s) (load k1) (load k2)
      = load (Spec.AES.addRoundKey (Spec.AES.shiftRows (Spec.AES.subBytes (Spec.AES.addRoundKey s k1))) k2) := by
  rw [encSpecround, addroundkey_load, encSubbytes_load, encRowshift_load, addroundkey_load]
theorem decCommonround_load (s k : Block) :
    decCommonround (load s) (load k)
      = load (Spec.AES.addRoundKey (Spec.AES.invSubBytes (Spec.AES.invShiftRows (Spec.AES.invMixColumns s))) k) := by
  rw [decCommonround, decColumnmix_load, decRowshift_load, decSubbytes_load, addroundkey_load]
theorem decSpecround_load (s k1 k2 : Block) :
    decSpecround (load s) (load k1) (load k2)
      = load (Spec.AES.addRoundKey (Spec.AES.invSubBytes (Spec.AES.invShiftRows (Spec.AES.addRoundKey s k2))) k1) := by
  rw [decSpecround, addroundkey_load, decRowshift_load, decSubbytes_load, addroundkey_load]

-- The rounds do not correspond one to one: a round of the code adds the round key first (`encCommonround_load`), a
-- round of FIPS-197 adds it last. Both ciphers are the same string of 40 operations cut at different places, and `simp`
-- unrolls the two 9-folds until the terms coincide. Likewise below: the code's common round begins with InvMixColumns.
theorem aes_encrypt_eq_spec (key blk : Block) : Model.Aes.encrypt key blk = Spec.AES.cipher key blk := by
  simp [Model.Aes.encrypt, Spec.AES.cipher, Spec.AES.round, List.range, List.range.loop, List.foldl,
    getKey_eq, encCommonround_load, encSpecround_load, store_load]
theorem aes_decrypt_eq_spec (key blk : Block) : Model.Aes.decrypt key blk = Spec.AES.invCipher key blk := by
  simp [Model.Aes.decrypt, Spec.AES.invCipher, Spec.AES.invRound, List.range, List.range.loop, List.foldl,
    getKey_eq, decCommonround_load, decSpecround_load, store_load]

end ModelVsSpec

theorem aes_decrypt_encrypt (key blk : Block) : Model.Aes.decrypt key (Model.Aes.encrypt key blk) = blk := by
  rw [aes_encrypt_eq_spec, aes_decrypt_eq_spec, spec_invCipher_cipher]

section Precomputed
open Wencry.Model.Aes
theorem allKeys_eq (key : Block) : allKeys key =
    [getKey key 0, getKey key 1, getKey key 2, getKey key 3, getKey key 4, getKey key 5,
     getKey key 6, getKey key 7, getKey key 8, getKey key 9, getKey key 10] := by
  simp [allKeys, allKeys.go, getKey]

theorem aes_encryptK (key blk : Block) : Model.Aes.encryptK (Model.Aes.allKeys key) blk = Model.Aes.encrypt key blk := by
  rw [allKeys_eq]
  simp [encryptK, encrypt, List.range, List.range.loop, List.foldl]
theorem aes_decryptK (key blk : Block) : Model.Aes.decryptK (Model.Aes.allKeys key) blk = Model.Aes.decrypt key blk := by
  rw [allKeys_eq]
  simp [decryptK, decrypt, List.range, List.range.loop, List.foldl]
theorem aes_decryptK_encryptK (key blk : Block) :
    Model.Aes.decryptK (Model.Aes.allKeys key) (Model.Aes.encryptK (Model.Aes.allKeys key) blk) = blk := by
  rw [aes_encryptK, aes_decryptK, aes_decrypt_encrypt]
end Precomputed

end Wencry.Proofs.Aes
