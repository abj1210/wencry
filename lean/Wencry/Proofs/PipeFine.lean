/-
The mutex-level pipeline (Model/PipeFine.lean) refines the critical-section-level pipeline (Model/Pipe.lean): every fine step is
invisible and lowers a rank, or is exactly one coarse step of the same thread.
-/
import Wencry.Model.PipeFine
import Wencry.Proofs.PipeProgress
namespace Wencry.Proofs.PipeFine
open Wencry Wencry.Model.Pipe Wencry.Model.PipeFine Wencry.Model.IoBuffer
open Wencry.Proofs.PipeCtl Wencry.Proofs.PipeProgress

variable {σ : Type}

def holdsW (p : FW) : Prop :=
  p = .initTest ∨ p = .initUnlock ∨ p = .suBody ∨ p = .suNotify ∨ p = .suUnlock ∨ p = .wrTest ∨ p = .wrUnlock
def holdsIo (p : FIo) : Prop :=
  p = .wuTest ∨ p = .wuUnlock ∨ p = .srBody ∨ p = .srNotify ∨ p = .srUnlock

/-- who holds the mutex of buffer i is determined by the program points (mutual exclusion is what `acquire` enforces; this
    invariant records it) -/
def LockInv (T : Nat) (s : FSt σ) : Prop :=
  ∀ i, i < T →
    (s.lock i = some (some i) ↔ holdsW (s.fw i)) ∧
    (s.lock i = some none ↔ (holdsIo s.fio ∧ s.d.turn = i)) ∧
    (s.lock i = none ∨ s.lock i = some (some i) ∨ s.lock i = some none)

def FInv (T : Nat) (s : FSt σ) : Prop := LockInv T s ∧ PInv T (abs s)

theorem FInv.lock {T : Nat} {s : FSt σ} (h : FInv T s) : LockInv T s := h.1
theorem FInv.ctl {T : Nat} {s : FSt σ} (h : FInv T s) : PInv T (abs s) := h.2

/-- strictly decreasing along invisible steps. A sleeper has the rank of its re-acquire point, so that the other thread's
    `notify_all` does not raise it; `suNotify … wrTest` descend on one scale across two critical sections because all of them
    abstract to `waitRdy`. -/
def rankFW : FW → Nat
  | .initLock => 3 | .initReacq => 3 | .initSleep => 3 | .initTest => 2 | .initUnlock => 1
  | .suLock => 2 | .suBody => 1
  | .suNotify => 6 | .suUnlock => 5 | .wrLock => 4 | .wrReacq => 4 | .wrSleep => 4 | .wrTest => 3 | .wrUnlock => 1
  | .fetch => 0 | .process => 0 | .afterWait => 0 | .fetch2 => 0 | .done => 0
def rankFIo : FIo → Nat
  | .wuLock => 3 | .wuReacq => 3 | .wuSleep => 3 | .wuTest => 2 | .wuUnlock => 1
  | .srLock => 2 | .srBody => 1 | .srNotify => 2 | .srUnlock => 1
  | .chk => 0 | .exporting => 0 | .loadDecide => 0 | .loading => 0 | .iter => 0 | .done => 0

def fineRank (T : Nat) (s : FSt σ) : Nat := sumT T (fun i => rankFW (s.fw i)) + rankFIo s.fio

section
variable {f : σ → Block → σ × Block} {inp : Input} {ispad : Bool} {T i : Nat} {s s' a b : FSt σ} {c : St σ} {p : FW} {tid : Tid}

theorem abs_eq (hd : vars c a.d = a.d) (hw : ∀ j, absW a j = c.wpc j) (hio : absIo a = c.iopc) : abs a = c := by
  unfold abs
  rw [funext hw, hio, ← hd]
  rfl

theorem abs_ext (hd : a.d = b.d) (hw : ∀ j, absW a j = absW b j) (hio : absIo a = absIo b) : abs a = abs b :=
  abs_eq (by rw [hd]; rfl) hw hio

theorem abs_wpc (s : FSt σ) (i : Nat) : (abs s).wpc i = absW s i := rfl
theorem abs_iopc (s : FSt σ) : (abs s).iopc = absIo s := rfl
theorem abs_buf (s : FSt σ) : (abs s).buf = s.d.buf := rfl
theorem abs_turn (s : FSt σ) : (abs s).turn = s.d.turn := rfl

section
variable {d : St σ} {l : Nat → Option Tid} {q : FIo}

/-- `q`: `suNotify` may have woken the I/O thread -/
theorem absW_moved {w : Nat → WPc} (hq : q = .srNotify ↔ s.fio = .srNotify) (ht : d.turn = s.d.turn)
    (hi : absW { s with d := d, lock := l, fio := q, fw := upd s.fw i p } i = w i) (ho : ∀ j, j ≠ i → w j = absW s j) (j : Nat) :
    absW { s with d := d, lock := l, fio := q, fw := upd s.fw i p } j = w j := by
  by_cases hj : j = i
  · exact hj ▸ hi
  · rw [ho j hj]; unfold absW; simp [upd_other _ _ _ _ hj, ht, hq]

theorem absIo_moved (ht : d.turn = s.d.turn) (hn : p ≠ .suNotify) (hn' : s.fw i ≠ .suNotify) :
    absIo { s with d := d, lock := l, fw := upd s.fw i p } = absIo s := by
  unfold absIo
  by_cases hj : s.d.turn = i
  · simp [ht, hj, hn, hn']
  · simp [ht, hj]

theorem absW_ioMoved (hn : q ≠ .srNotify) (hn' : s.fio ≠ .srNotify) (j : Nat) :
    absW { s with d := d, lock := l, fio := q } j = absW s j := by
  unfold absW; simp [hn, hn']
end

theorem liftW_not_holds (p : WPc) : ¬ holdsW (liftW p) := by
  cases p <;> simp [holdsW, liftW]

theorem liftIo_not_holds (p : IoPc) : ¬ holdsIo (liftIo p) := by
  cases p <;> simp [holdsIo, liftIo]

theorem stepW_unsync {t : St σ} (hc : stepW f t i = some c)
    (hp : t.wpc i = .fetch ∨ t.wpc i = .process ∨ t.wpc i = .afterWait ∨ t.wpc i = .fetch2) :
    c.iopc = t.iopc ∧ (c.wpc i = .process ∨ c.wpc i = .setUpd ∨ c.wpc i = .fetch ∨ c.wpc i = .fetch2 ∨ c.wpc i = .done) := by
  rcases hp with h | h | h | h <;> simp only [stepW, h] at hc <;> (try split at hc) <;> cases hc <;> simp

theorem abs_unsyncW (hc : stepW f (abs s) i = some c)
    (hp : s.fw i = .fetch ∨ s.fw i = .process ∨ s.fw i = .afterWait ∨ s.fw i = .fetch2) :
    abs { s with d := vars c s.d, fw := upd s.fw i (liftW (c.wpc i)) } = c := by
  have fr := stepW_frame hc
  obtain ⟨hio, hpc⟩ := stepW_unsync hc (by rcases hp with h | h | h | h <;> simp [abs_wpc, absW, h])
  refine abs_eq rfl (absW_moved Iff.rfl fr.turn ?_ fun j hj => (fr.other j hj).2.1) ?_
  · rcases hpc with h | h | h | h | h <;> simp [absW, h, liftW]
  · rw [hio]
    exact absIo_moved fr.turn (fun e => liftW_not_holds (c.wpc i) (by simp [holdsW, e])) (by rcases hp with h | h | h | h <;> simp [h])

theorem stepIo_unsync {t : St σ} (hc : stepIo inp ispad T t = some c)
    (hp : t.iopc = .chk ∨ t.iopc = .exporting ∨ t.iopc = .loadDecide ∨ t.iopc = .loading ∨ t.iopc = .iter) :
    c.wpc = t.wpc ∧ c.iopc ≠ .sleepUpd := by
  rcases hp with h | h | h | h | h <;> simp only [stepIo, h] at hc <;> (try split at hc) <;> cases hc <;> simp

theorem abs_unsyncIo (hc : stepIo inp ispad T (abs s) = some c)
    (hp : s.fio = .chk ∨ s.fio = .exporting ∨ s.fio = .loadDecide ∨ s.fio = .loading ∨ s.fio = .iter) :
    abs { s with d := vars c s.d, fio := liftIo c.iopc } = c := by
  obtain ⟨hw, hio⟩ := stepIo_unsync hc (by rcases hp with h | h | h | h | h <;> simp [abs_iopc, absIo, h])
  refine abs_eq rfl (fun j => ?_) ?_
  · rw [hw, abs_wpc]
    exact absW_ioMoved (fun e => liftIo_not_holds c.iopc (by simp [holdsIo, e])) (by rcases hp with h | h | h | h | h <;> simp [h]) j
  · revert hio; cases c.iopc <;> simp [absIo, liftIo]

theorem fineRank_updW (hi : i < T) (hfw : s'.fw = upd s.fw i p) (hio : rankFIo s'.fio = rankFIo s.fio)
    (hr : rankFW p < rankFW (s.fw i)) : fineRank T s' < fineRank T s := by
  have := sumT_upd (fun j => rankFW (upd s.fw i p j)) (fun j => rankFW (s.fw j)) hi
    (fun j _ hne => by simp [upd_other _ _ _ _ hne])
  simp only [upd_same] at this
  simp only [fineRank, hfw, hio]
  omega

theorem fineRank_updIo (hfw : ∀ j, j < T → rankFW (s'.fw j) = rankFW (s.fw j))
    (hr : rankFIo s'.fio < rankFIo s.fio) : fineRank T s' < fineRank T s := by
  simp only [fineRank, sumT_congr hfw]
  omega

section
variable {l : Nat → Option Tid}

theorem invisW (hi : i < T) (hw : absW { s with lock := l, fw := upd s.fw i p } i = absW s i) (hn : p ≠ .suNotify)
    (hn' : s.fw i ≠ .suNotify) (hr : rankFW p < rankFW (s.fw i)) :
    abs { s with lock := l, fw := upd s.fw i p } = abs s ∧ fineRank T { s with lock := l, fw := upd s.fw i p } < fineRank T s :=
  ⟨abs_ext rfl (absW_moved Iff.rfl rfl hw fun _ _ => rfl) (absIo_moved rfl hn hn'), fineRank_updW hi rfl rfl hr⟩
end

theorem absIo_suBody {d : St σ} (hq : s.fw i = .suBody) (ht : d.turn = s.d.turn) :
    absIo { s with d := d, fw := upd s.fw i .suNotify } = if absIo s = .sleepUpd ∧ s.d.turn = i then .waitUpd else absIo s := by
  unfold absIo
  simp only [ht]
  generalize s.fio = q
  by_cases hj : s.d.turn = i
  · cases q <;> simp [hj, hq]
  · cases q <;> simp [hj]

theorem absIo_suNotify (hq : s.fw i = .suNotify) :
    absIo { s with fio := if s.fio = .wuSleep ∧ s.d.turn = i then .wuReacq else s.fio, fw := upd s.fw i .suUnlock } = absIo s := by
  unfold absIo
  generalize s.fio = q
  by_cases hj : s.d.turn = i
  · cases q <;> simp [hj, hq]
  · cases q <;> simp [hj]

theorem LockInv.excl (h : LockInv T s) (hi : i < T) (hw : holdsW (s.fw i)) : ¬ (holdsIo s.fio ∧ s.d.turn = i) := by
  have := h i hi
  grind

theorem simW (hi : i < T) (h : LockInv T s) (hs : fstepW f s i = some s') :
    stepW f (abs s) i = some (abs s') ∨ (abs s' = abs s ∧ fineRank T s' < fineRank T s) := by
  cases hq : s.fw i <;> simp only [fstepW, hq, acquire] at hs
  case initSleep | wrSleep | done => cases hs
  case fetch | process | afterWait | fetch2 =>
    obtain ⟨c, hc, rfl⟩ := Option.map_eq_some_iff.1 hs
    exact Or.inl (by rw [hc, abs_unsyncW hc (by simp [hq])])
  -- the tests of `wait_ready` are the coarse steps at `initWait`, `waitRdy`; the worker holds the mutex, so no notification is on its way
  case initTest | wrTest =>
    have hex : ¬ (s.fio = .srNotify ∧ s.d.turn = i) := fun e => h.excl hi (by simp [holdsW, hq]) ⟨by simp [holdsIo, e.1], e.2⟩
    left
    split at hs <;> cases hs <;> rename_i hc
    all_goals
      simp only [stepW, abs_wpc, absW, hq, abs_buf, hc, if_true, if_false]
      refine congrArg some (Eq.symm ?_)
      exact abs_eq rfl (absW_moved Iff.rfl rfl (by simp [absW, hex]) fun j hj => upd_other _ _ _ _ hj)
        (absIo_moved rfl (by simp) (by simp [hq]))
  -- the body of `set_update` is the coarse step at `setUpd`
  case suBody =>
    left
    split at hs <;> cases hs <;> rename_i hc
    all_goals
      simp only [stepW, abs_wpc, absW, hq, abs_buf, hc, if_true, if_false]
      refine congrArg some (Eq.symm ?_)
      refine abs_eq rfl (absW_moved Iff.rfl rfl (by simp [absW]) fun j hj => upd_other _ _ _ _ hj) ?_
    · exact absIo_suBody hq rfl
    · exact absIo_moved rfl (by simp) (by simp [hq])
  -- `cv_update.notify_all()` is invisible: the abstraction has woken the I/O thread already
  case suNotify =>
    cases hs
    refine Or.inr ⟨abs_ext rfl (absW_moved ?_ rfl (by simp [absW, hq]) fun _ _ => rfl) (absIo_suNotify hq),
      fineRank_updW hi rfl ?_ (by simp [hq, rankFW])⟩
    · split <;> simp_all
    · show rankFIo (if _ then _ else _) = _
      split
      · rename_i hc; simp [hc.1, rankFIo]
      · rfl
  -- acquiring (`initLock`, `initReacq`, `suLock`, `wrLock`, `wrReacq`) and releasing the mutex (`initUnlock`, `suUnlock`, `wrUnlock`)
  -- are invisible
  all_goals
    (try split at hs) <;> cases hs
    exact Or.inr (invisW hi (by simp [absW, hq]) (by simp) (by simp [hq]) (by simp [hq, rankFW]))

theorem absW_srBody {d : St σ} (hq : s.fio = .srBody) (ht : d.turn = s.d.turn) (j : Nat) :
    absW { s with d := d, fio := .srNotify } j = upd (abs s).wpc s.d.turn (wake (absW s s.d.turn)) j := by
  by_cases hj : j = s.d.turn
  · subst hj
    rw [upd_same]; unfold absW; simp only [hq, ht]
    generalize s.fw s.d.turn = p
    cases p <;> simp [wake]
  · have hj' : ¬ s.d.turn = j := fun e => hj e.symm
    rw [upd_other _ _ _ _ hj, abs_wpc]; unfold absW; simp only [hq, ht]
    generalize s.fw j = p
    cases p <;> simp [hj']

theorem absW_srNotify (hq : s.fio = .srNotify) (j : Nat) :
    absW { s with fw := upd s.fw s.d.turn (match s.fw s.d.turn with | .wrSleep => .wrReacq | .initSleep => .initReacq | p => p),
                  fio := .srUnlock } j = absW s j := by
  unfold absW
  simp only [hq]
  by_cases hj : j = s.d.turn
  · subst hj
    simp only [upd_same]
    generalize s.fw s.d.turn = p
    cases p <;> simp
  · have hj' : ¬ s.d.turn = j := fun e => hj e.symm
    simp only [upd_other _ _ _ _ hj]
    generalize s.fw j = p
    cases p <;> simp [hj']

theorem invisIo {l : Nat → Option Tid} {q : FIo} (hio : absIo { s with lock := l, fio := q } = absIo s) (hn : q ≠ .srNotify)
    (hn' : s.fio ≠ .srNotify) (hr : rankFIo q < rankFIo s.fio) :
    abs { s with lock := l, fio := q } = abs s ∧ fineRank T { s with lock := l, fio := q } < fineRank T s :=
  ⟨abs_ext rfl (absW_ioMoved hn hn') hio, fineRank_updIo (fun _ _ => rfl) hr⟩

theorem simIo (h : FInv T s) (hs : fstepIo inp ispad T s = some s') :
    stepIo inp ispad T (abs s) = some (abs s') ∨ (abs s' = abs s ∧ fineRank T s' < fineRank T s) := by
  cases hq : s.fio <;> simp only [fstepIo, hq, acquire] at hs
  case wuSleep | done => cases hs
  case chk | exporting | loadDecide | loading | iter =>
    obtain ⟨c, hc, rfl⟩ := Option.map_eq_some_iff.1 hs
    exact Or.inl (by rw [hc, abs_unsyncIo hc (by simp [hq])])
  -- the test of `wait_update` is the coarse step at `waitUpd`; the I/O thread holds the mutex, so no notification is on its way
  case wuTest =>
    have ht : s.d.turn < T := h.ctl.turn_lt (by simp [abs_iopc, absIo, hq])
    have hex : s.fw s.d.turn ≠ .suNotify := fun e => h.lock.excl ht (by simp [holdsW, e]) ⟨by simp [holdsIo, hq], rfl⟩
    left
    split at hs <;> cases hs <;> rename_i hc
    all_goals
      simp only [stepIo, abs_iopc, absIo, hq, abs_buf, abs_turn, hc, if_true, if_false]
      refine congrArg some (Eq.symm ?_)
      exact abs_eq rfl (absW_ioMoved (by simp) (by simp [hq])) (by simp [absIo, hex])
  -- the body of `set_ready` is the coarse step at `setRdy`
  case srBody =>
    left
    -- a hypothesis, not a `rfl` lemma: `simp` has to rewrite the `Decidable` instance of the `if` as well
    have e3 : (abs s).lst = s.d.lst := rfl
    split at hs <;> cases hs <;> rename_i hc
    all_goals
      simp only [stepIo, abs_iopc, absIo, hq, abs_buf, abs_turn, e3]
      first | rw [if_pos hc] | rw [if_neg hc]
      refine congrArg some (Eq.symm ?_)
      exact abs_eq rfl (absW_srBody hq rfl) (by simp [absIo])
  -- `cv_ready.notify_all()` is invisible: the abstraction has woken the worker already
  case srNotify =>
    cases hs
    refine Or.inr ⟨abs_ext rfl (absW_srNotify hq) (by simp [absIo, hq]), fineRank_updIo (fun j _ => ?_) (by simp [hq, rankFIo])⟩
    show rankFW (upd s.fw s.d.turn _ j) = _
    by_cases hj : j = s.d.turn
    · subst hj
      simp only [upd_same]
      generalize s.fw s.d.turn = p
      cases p <;> rfl
    · simp [hj]
  -- acquiring (`wuLock`, `wuReacq`, `srLock`) and releasing the mutex (`wuUnlock`, `srUnlock`) are invisible
  all_goals
    (try split at hs) <;> cases hs
    exact Or.inr (invisIo (by simp [absIo, hq]) (by simp) (by simp [hq]) (by simp [hq, rankFIo]))

theorem LockInv_moveW {d : St σ} {l : Nat → Option Tid} {q : FIo} (h : LockInv T s) (hq : holdsIo q ↔ holdsIo s.fio)
    (ht : d.turn = s.d.turn) (hl : ∀ j, j ≠ i → l j = s.lock j)
    (hrow : (l i = some (some i) ↔ holdsW p) ∧ (l i = some none ↔ (holdsIo s.fio ∧ s.d.turn = i)) ∧
      (l i = none ∨ l i = some (some i) ∨ l i = some none)) :
    LockInv T { s with d := d, fio := q, lock := l, fw := upd s.fw i p } := by
  intro j hj
  by_cases hji : j = i
  · subst hji; simpa only [upd_same, hq, ht] using hrow
  · simpa only [upd_other _ _ _ _ hji, hl j hji, hq, ht] using h j hj

theorem LockInv_stepW (hi : i < T) (h : LockInv T s) (hs : fstepW f s i = some s') : LockInv T s' := by
  have hrow := h i hi
  cases hq : s.fw i <;> simp only [fstepW, hq, acquire] at hs
  case initSleep | wrSleep | done => cases hs
  case fetch | process | afterWait | fetch2 =>
    obtain ⟨c, hc, rfl⟩ := Option.map_eq_some_iff.1 hs
    refine LockInv_moveW h Iff.rfl (stepW_frame hc).turn (fun _ _ => rfl) ?_
    have := liftW_not_holds (c.wpc i)
    simp only [hq, holdsW] at hrow
    grind
  -- `cv_update.notify_all()` may move the I/O thread from `wuSleep` to `wuReacq`: it holds no mutex at either
  case suNotify =>
    cases hs
    refine LockInv_moveW h (by split <;> simp_all [holdsIo]) rfl (fun _ _ => rfl) ?_
    simp only [hq, holdsW] at hrow ⊢
    grind
  all_goals
    (try split at hs) <;> cases hs
    all_goals
      refine LockInv_moveW h Iff.rfl rfl (fun j hj => by simp [hj]) ?_
      simp only [hq, holdsW] at hrow ⊢
      grind [upd]

/-- `fw'`: the I/O thread's `notify_all` may move worker `turn` -/
theorem LockInv_moveIo {d : St σ} {l : Nat → Option Tid} {q : FIo} {fw' : Nat → FW} (h : LockInv T s) (ht : d.turn = s.d.turn)
    (hl : ∀ j, j ≠ s.d.turn → l j = s.lock j ∧ fw' j = s.fw j)
    (hrow : s.d.turn < T → (l s.d.turn = some (some s.d.turn) ↔ holdsW (fw' s.d.turn)) ∧ (l s.d.turn = some none ↔ holdsIo q) ∧
      (l s.d.turn = none ∨ l s.d.turn = some (some s.d.turn) ∨ l s.d.turn = some none)) :
    LockInv T { d := d, fw := fw', fio := q, lock := l } := by
  intro j hj
  by_cases hji : j = s.d.turn
  · subst hji; simpa only [ht, and_true] using hrow hj
  · have := h j hj
    simp only [(hl j hji).1, (hl j hji).2, ht]
    simpa only [Ne.symm hji, and_false] using this

theorem LockInv_updIo {d : St σ} {q : FIo} (h : LockInv T s) (hn : ¬ holdsIo s.fio) (hn' : ¬ holdsIo q) :
    LockInv T { s with d := d, fio := q } := by
  intro j hj
  have := h j hj
  simpa only [hn, hn', false_and] using this

theorem LockInv_stepIo (h : LockInv T s) (hs : fstepIo inp ispad T s = some s') : LockInv T s' := by
  cases hq : s.fio <;> simp only [fstepIo, hq, acquire] at hs
  case wuSleep | done => cases hs
  case chk | exporting | loadDecide | loading | iter =>
    obtain ⟨c, hc, rfl⟩ := Option.map_eq_some_iff.1 hs
    exact LockInv_updIo h (by simp [hq, holdsIo]) (liftIo_not_holds _)
  -- `cv_ready.notify_all()` may move worker `turn` from a sleep to the matching re-acquisition: it holds no mutex at either
  case srNotify =>
    cases hs
    refine LockInv_moveIo h rfl (fun j hj => ⟨rfl, upd_other _ _ _ _ hj⟩) fun ht => ?_
    have hrow := h _ ht
    simp only [upd_same, hq, holdsIo, holdsW] at hrow ⊢
    grind
  all_goals
    (try split at hs) <;> cases hs
    all_goals
      refine LockInv_moveIo h rfl (fun j hj => ⟨by simp [hj], rfl⟩) fun ht => ?_
      have hrow := h _ ht
      simp only [hq, holdsIo] at hrow ⊢
      grind [upd]

theorem abs_init (T : Nat) (ws0 : Nat → σ) : abs (finit T ws0) = init T ws0 := rfl

theorem FInv_init (hT : 0 < T) (ws0 : Nat → σ) : FInv T (finit T ws0) := by
  refine ⟨?_, by rw [abs_init]; exact PInv_init hT ws0⟩
  intro i _
  simp [finit, holdsW, holdsIo]

theorem fstep_some (hi : i < T) : fstep f inp ispad T s (some i) = fstepW f s i := if_pos hi

theorem fstep_cases (hs : fstep f inp ispad T s tid = some s') :
    (tid = none ∧ fstepIo inp ispad T s = some s') ∨ ∃ i, tid = some i ∧ i < T ∧ fstepW f s i = some s' := by
  cases tid with
  | none => exact Or.inl ⟨rfl, hs⟩
  | some i =>
    simp only [fstep] at hs
    split at hs
    · exact Or.inr ⟨i, rfl, ‹_›, hs⟩
    · cases hs

theorem fine_step_refines (h : FInv T s) (hs : fstep f inp ispad T s tid = some s') :
    step f inp ispad T (abs s) tid = some (abs s') ∨ (abs s' = abs s ∧ fineRank T s' < fineRank T s) := by
  rcases fstep_cases hs with ⟨rfl, hs⟩ | ⟨i, rfl, hi, hs⟩
  · exact simIo h hs
  · rw [step_some hi]
    exact simW hi h.lock hs

theorem fine_step_simulated (h : FInv T s) (hs : fstep f inp ispad T s tid = some s') :
    abs s' = abs s ∨ step f inp ispad T (abs s) tid = some (abs s') :=
  (fine_step_refines h hs).symm.imp_left (·.1)

theorem LockInv_step (h : LockInv T s) (hs : fstep f inp ispad T s tid = some s') : LockInv T s' := by
  rcases fstep_cases hs with ⟨-, hs⟩ | ⟨i, -, hi, hs⟩
  · exact LockInv_stepIo h hs
  · exact LockInv_stepW hi h hs

theorem FInv_step (hwf : inp.WF) (h : FInv T s) (hs : fstep f inp ispad T s tid = some s') : FInv T s' := by
  refine ⟨LockInv_step h.lock hs, ?_⟩
  rcases fine_step_simulated h hs with h1 | h1
  · rw [h1]; exact h.ctl
  · exact PInv_step hwf h.ctl h1

theorem absIo_done_iff (s : FSt σ) : absIo s = .done ↔ s.fio = .done := by
  cases hq : s.fio <;> simp only [absIo, hq, reduceCtorEq]
  case wuSleep => split <;> simp

theorem absW_done_iff (s : FSt σ) (i : Nat) : absW s i = .done ↔ s.fw i = .done := by
  cases hq : s.fw i <;> simp only [absW, hq, reduceCtorEq]
  case initSleep | wrSleep => split <;> simp

theorem fAllDone_iff (T : Nat) (s : FSt σ) : fAllDone T s ↔ allDone T (abs s) := by
  simp only [fAllDone, allDone, abs_iopc, abs_wpc, absIo_done_iff, absW_done_iff]

theorem holdsW_enabled (f : σ → Block → σ × Block) (h : holdsW (s.fw i)) : (fstepW f s i).isSome := by
  unfold fstepW
  rcases h with h | h | h | h | h | h | h <;> simp only [h] <;> (try split) <;> rfl

theorem holdsIo_enabled (inp : Input) (ispad : Bool) (T : Nat) (h : holdsIo s.fio) : (fstepIo inp ispad T s).isSome := by
  unfold fstepIo
  rcases h with h | h | h | h | h <;> simp only [h] <;> (try split) <;> rfl

theorem fstepW_enabled (hlk : s.lock i = none) (hio : s.fio ≠ .srNotify) (hen : (stepW f (abs s) i).isSome) :
    (fstepW f s i).isSome := by
  cases hq : s.fw i <;> simp only [fstepW, hq]
  case initSleep | wrSleep | done => simp [stepW, abs_wpc, absW, hq, hio] at hen
  case initLock | initReacq | wrLock | wrReacq | suLock => simp [acquire, hlk]
  case fetch | process | afterWait | fetch2 => simpa using hen
  all_goals first | rfl | (split <;> rfl)

theorem fstepIo_enabled (hlk : s.lock s.d.turn = none) (hw : s.fw s.d.turn ≠ .suNotify)
    (hen : (stepIo inp ispad T (abs s)).isSome) : (fstepIo inp ispad T s).isSome := by
  cases hq : s.fio <;> simp only [fstepIo, hq]
  case wuSleep | done => simp [stepIo, abs_iopc, absIo, hq, hw] at hen
  case wuLock | wuReacq | srLock => simp [acquire, hlk]
  case chk | exporting | loadDecide | loading | iter => simpa using hen
  all_goals first | rfl | (split <;> rfl)

/-- a thread that holds a mutex is never blocked; if no mutex is held, a thread enabled in the abstraction is enabled here -/
theorem fine_deadlock_free (f : σ → Block → σ × Block) (inp : Input) (ispad : Bool) (h : FInv T s) :
    fAllDone T s ∨ ∃ tid, (fstep f inp ispad T s tid).isSome := by
  by_cases hio : holdsIo s.fio
  · exact Or.inr ⟨none, holdsIo_enabled inp ispad T hio⟩
  by_cases hw : ∃ i, i < T ∧ holdsW (s.fw i)
  · obtain ⟨i, hi, hh⟩ := hw
    exact Or.inr ⟨some i, by rw [fstep_some hi]; exact holdsW_enabled f hh⟩
  -- no mutex is held, so no notification is pending (`suNotify`, `srNotify` are inside critical sections)
  have hfree : ∀ i, i < T → s.lock i = none ∧ s.fw i ≠ .suNotify := fun i hi => by
    have hl := h.lock i hi
    have hwi : ¬ holdsW (s.fw i) := fun hh => hw ⟨i, hi, hh⟩
    exact ⟨by grind, fun e => hwi (by simp [holdsW, e])⟩
  have hsr : s.fio ≠ .srNotify := fun e => hio (by simp [holdsIo, e])
  rcases deadlock_free f inp ispad h.ctl with hd | ⟨tid, hen⟩
  · exact Or.inl ((fAllDone_iff T s).2 hd)
  · refine Or.inr ⟨tid, ?_⟩
    rcases tid with _ | i
    · have ht : s.d.turn < T := h.ctl.turn_lt (stepIo_isSome_iff.1 hen).2
      exact fstepIo_enabled (hfree _ ht).1 (hfree _ ht).2 hen
    · by_cases hi : i < T
      · rw [step_some hi] at hen
        rw [fstep_some hi]
        exact fstepW_enabled (hfree i hi).1 hsr hen
      · simp [step, hi] at hen

def ltFine (a b : (Nat × Nat × Nat × Nat) × Nat) : Prop := lt4 a.1 b.1 ∨ (a.1 = b.1 ∧ a.2 < b.2)

theorem ltFine_wf : WellFounded ltFine := lexOr_wf lt4_wf Nat.lt_wfRel.wf

theorem fine_step_decreases {P : Nat} (h : FInv T s) (hr : RInv inp P (abs s))
    (hs : fstep f inp ispad T s tid = some s') :
    ltFine (mu P T (abs s'), fineRank T s') (mu P T (abs s), fineRank T s) := by
  rcases fine_step_refines h hs with h1 | ⟨h1, h2⟩
  · exact Or.inl (step_decreases h.ctl hr h1)
  · exact Or.inr ⟨by rw [h1], h2⟩
end

end Wencry.Proofs.PipeFine

section AxiomCheck
open Wencry.Proofs.PipeFine
#print axioms FInv_init
#print axioms abs_init
#print axioms fine_step_simulated
#print axioms FInv_step
#print axioms fAllDone_iff
#print axioms fine_deadlock_free
#print axioms fine_step_decreases
end AxiomCheck
