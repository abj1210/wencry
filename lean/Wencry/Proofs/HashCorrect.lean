/-
C07 assembled: the model's digests, from memory or through the file buffer, are the FIPS 180-4 / RFC 1321 digests for
every message. No bound on its length is needed: the model's 64-bit counter wraps exactly as `Spec.Hash.pad` reduces the
bit length mod 2⁶⁴.
-/
import Wencry.Proofs.HashCompress
import Wencry.Proofs.HashFramework
import Wencry.Spec.HMAC
namespace Wencry.Proofs.HashCorrect
open Wencry Wencry.Model.Hash Wencry.Model.HashBuffer Wencry.Model.Stdio Wencry.Proofs.HashFramework Wencry.Proofs.HashCompress
open Wencry.Spec.Hash (chunks64 pad be64Bytes le64Bytes)

theorem getStringHash_std {σ} {A : Alg σ} {H0 : σ} {compress : σ → Bytes → σ} {enc : Nat → Bytes} {digest : σ → Bytes}
    (hA : A = ⟨H0, compress, fun n => enc n.toNat, digest⟩) (hl : ∀ n, (A.lenBytes n).length = 8) (m : Bytes) :
    getStringHash A m = digest ((chunks64 (pad enc m)).foldl compress H0) := by
  rw [getStringHash_eq A hl]
  subst hA
  simp only [padded, pad, BitVec.toNat_ofNat]

theorem sha1_string (m : Bytes) : getStringHash Sha1.alg m = Spec.Hash.SHA1.hash m :=
  getStringHash_std sha1_alg_eq lenBE_length m

theorem sha256_string (m : Bytes) : getStringHash Sha256.alg m = Spec.Hash.SHA256.hash m :=
  getStringHash_std sha256_alg_eq lenBE_length m

theorem md5_string (m : Bytes) : getStringHash Md5.alg m = Spec.Hash.MD5.hash m :=
  getStringHash_std md5_alg_eq lenLE_length m

theorem stringHash_eq (a : Nat) (ha : a ≤ 2) (m : Bytes) : stringHash a m = some (Spec.HMAC.hashOf a m) :=
  match a, ha with
  | 0, _ => congrArg some (sha1_string m)
  | 1, _ => congrArg some (md5_string m)
  | 2, _ => congrArg some (sha256_string m)

theorem fileHash_eq (a : Nat) (ha : a ≤ 2) (H : Nat) (hH : 1 ≤ H) (fp : RFile) (pre : Option Bytes) (hpre : ∀ p, pre = some p → p.length = 64) :
    ∃ fb, fileHash a reader (fuelFor H fp) (FB.new H fp pre) = some (Spec.HMAC.hashOf a (pre.getD [] ++ fp.data.drop fp.pos), fb)
          ∧ fb.fp.data = fp.data := by
  obtain ⟨fb, h, hd⟩ := fileHash_eq_stringHash a H hH fp pre hpre
  exact ⟨fb, by rw [h, stringHash_eq a ha]; rfl, hd⟩

theorem hashOf_length (a : Nat) (m : Bytes) : (Spec.HMAC.hashOf a m).length = Spec.HMAC.tagLen a := by
  match a with
  | 0 => simp [Spec.HMAC.hashOf, Spec.Hash.SHA1.hash, Spec.Hash.SHA1.digestBytes, Spec.Hash.be32Bytes, Spec.HMAC.tagLen]
  | 1 => simp [Spec.HMAC.hashOf, Spec.Hash.MD5.hash, Spec.Hash.MD5.digestBytes, Spec.Hash.le32Bytes, Spec.HMAC.tagLen]
  | _ + 2 => simp [Spec.HMAC.hashOf, Spec.Hash.SHA256.hash, Spec.Hash.SHA256.digestBytes, Spec.Hash.be32Bytes, Spec.HMAC.tagLen]

theorem sha1_length (m : Bytes) : (Spec.Hash.SHA1.hash m).length = 20 := hashOf_length 0 m

end Wencry.Proofs.HashCorrect
