/- C03 for the pipeline transition system of Model/Pipe.lean, read off the invariants `PInv` and `DI` at a single state. -/
import Wencry.Proofs.PipeDataInv
namespace Wencry.Proofs.PipeData
open Wencry Wencry.Model.Pipe Wencry.Model.IoBuffer Wencry.Proofs.PipeCtl
open Wencry.Proofs.PipeDataInv

variable {σ : Type}

/-- the transformations worker i performs in a complete run: its chunks in increasing order, each block once, in order -/
def workerLog (inp : Input) (T n i : Nat) : List (Nat × Nat × Nat) :=
  ((List.range n).filter (fun c => c % T = i)).flatMap fun c => (List.range (inp c).1.length).map fun k => (i, c, k)

theorem workerLog_eq_wLog (inp : Input) (T n i : Nat) : workerLog inp T n i = wLog inp T n i := rfl

section
variable {f : σ → Block → σ × Block} {inp : Input} {T : Nat} {ws0 : Nat → σ} {ispad : Bool} {P V : Nat} {s : St σ}

theorem export_complete (hp : PInv T s) (hV : DI f inp T ws0 ispad P V s) (he : s.iopc = .exporting) :
    s.cid s.turn = s.nexp ∧ s.nexp < nChunks inp P ∧ (s.buf s.turn).now = (s.buf s.turn).total ∧
    s.dat s.turn = refOut f inp T ws0 s.nexp ∧ s.fin s.turn = decide ((inp s.nexp).2 = .final) :=
  (hV.at_export he hp).2

theorem out_prefix (hV : DI f inp T ws0 ispad P V s) : s.nexp ≤ nChunks inp P ∧ s.out = seqOut f inp ispad T ws0 s.nexp :=
  ⟨by rw [hV.nexp]; exact Nat.min_le_left _ _, hV.out⟩

theorem final_output (hT : 0 < T) (hp : PInv T s) (hV : DI f inp T ws0 ispad P V s) (hd : allDone T s) :
    s.out = seqOut f inp ispad T ws0 (nChunks inp P) ∧
    ∀ i, i < T → s.log.filter (fun e => e.1 = i) = workerLog inp T (nChunks inp P) i := by
  have hpc := hd.1
  -- every buffer is INV, so its description is the terminal one
  have hend : ∀ n, V + 1 ≤ n → n < V + 1 + T →
      T ≤ n ∧ nChunks inp P ≤ n - T ∧ lgOf s (n % T) = wLog inp T (nChunks inp P) (n % T) := by
    intro n h1 h2
    have hn := hV.buf n (by rw [hpc]; exact h1) (by rw [hpc]; exact h2)
    rw [BufI, if_neg (by simp [hpc])] at hn
    exact hn.of_inv (hp.done_inv hpc (n % T) (Nat.mod_lt _ hT))
  constructor
  · obtain ⟨e1, e2, -⟩ := hend (V + 1) (by omega) (by omega)
    have : s.nexp = nChunks inp P := by
      rw [hV.nexp, hpc]; simp only [eOf]; omega
    rw [hV.out, this]
  · intro i hi
    obtain ⟨n, n1, n2, n3⟩ := win_exists hi (V + 1)
    rw [workerLog_eq_wLog]
    exact n3 ▸ (hend n n1 n2).2.2
end

end Wencry.Proofs.PipeData
