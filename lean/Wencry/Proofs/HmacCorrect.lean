/-
C08: the tag computed by the model of `hmac::getres` is RFC 2104 HMAC (block size 64, the 16-byte key zero-padded) with the
selected hash over exactly the bytes from the current file position to the end of the file, for every refill size; and the
comparison accepts if and only if every tag byte matches.
-/
import Wencry.Proofs.HashCorrect
import Wencry.Model.Hmac
namespace Wencry.Proofs.HmacCorrect
open Wencry Wencry.Model Wencry.Model.Hash Wencry.Model.HashBuffer Wencry.Model.Stdio Wencry.Proofs.HashCorrect

theorem ipad_eq : Hmac.ipad = 0x36 := by decide
theorem opad_eq : Hmac.opad = 0x5c := by decide

theorem key1_eq (key : Bytes) (hk : key.length = 16) : Hmac.key1 key = key ++ List.replicate (64 - key.length) 0 := by
  simp [Hmac.key1, List.take_of_length_le (Nat.le_of_eq hk), hk]

theorem key1_length (key : Bytes) : (Hmac.key1 key).length = 64 := by
  simp only [Hmac.key1, List.length_append, List.length_replicate, List.length_take]; omega

theorem getres_eq (H : Nat) (hH : 1 ≤ H) (h : Nat) (hh : h ≤ 2) (key : Bytes) (hk : key.length = 16) (fp : RFile) :
    ∃ fp', Hmac.getres H h key fp = some (Spec.HMAC.hmac (Spec.HMAC.hashOf h) key (fp.data.drop fp.pos), fp') ∧ fp'.data = fp.data := by
  obtain ⟨fb, hf, hd⟩ := fileHash_eq h hh H hH fp (some ((Hmac.key1 key).map (· ^^^ Hmac.ipad)))
    (by intro p hp; cases hp; simp [key1_length])
  refine ⟨fb.fp, ?_, hd⟩
  have hnot : ¬ key.length > 64 := by omega
  simp only [Hmac.getres, hf, stringHash_eq h hh, Option.map_some, Option.getD_some]
  simp only [Spec.HMAC.hmac, hnot, if_false, key1_eq key hk, ipad_eq, opad_eq]

theorem cmphmac_eq (H : Nat) (hH : 1 ≤ H) (h : Nat) (hh : h ≤ 2) (key : Bytes) (hk : key.length = 16) (fp : RFile) (stored : Bytes) :
    Hmac.cmphmac H h key fp stored = some (decide (stored.take (Spec.HMAC.hmac (Spec.HMAC.hashOf h) key (fp.data.drop fp.pos)).length
        = Spec.HMAC.hmac (Spec.HMAC.hashOf h) key (fp.data.drop fp.pos))) := by
  obtain ⟨fp', hg, _⟩ := getres_eq H hH h hh key hk fp
  simp [Hmac.cmphmac, hg]

theorem hmac_length (h : Nat) (key text : Bytes) : (Spec.HMAC.hmac (Spec.HMAC.hashOf h) key text).length = Spec.HMAC.tagLen h :=
  hashOf_length h _

theorem hmac_length_bounds (h : Nat) (key text : Bytes) :
    16 ≤ (Spec.HMAC.hmac (Spec.HMAC.hashOf h) key text).length ∧ (Spec.HMAC.hmac (Spec.HMAC.hashOf h) key text).length ≤ 32 := by
  rw [hmac_length]; unfold Spec.HMAC.tagLen; split <;> omega

end Wencry.Proofs.HmacCorrect
