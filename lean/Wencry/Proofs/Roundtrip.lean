/-
C01: the file `encrypt` writes (`EncryptData.encrypt_data`) is `Accepted`, and the decrypting pipeline undoes the encrypting one
stream by stream (`SeqLoop.blkLoop_sync`).
-/
import Wencry.Proofs.EncryptData
import Wencry.Proofs.ModesAes
namespace Wencry.Proofs.Roundtrip
open Wencry Wencry.Model Wencry.Model.File Wencry.Model.Stdio Wencry.Model.IoBuffer Wencry.Model.Modes Wencry.Proofs.FileLogic
open Wencry.Proofs.Modes Wencry.Proofs.SeqLoop Wencry.Proofs.EncryptData

theorem joinBlocks_nil : joinBlocks [] = [] := rfl

theorem joinBlocks_length (bl : List Block) : (joinBlocks bl).length = 16 * bl.length := Blocks.joinBlocks_length bl

theorem exists_join (l : Bytes) : ∃ (bs : List Block) (t : Bytes), l = joinBlocks bs ++ t ∧ t.length < 16 := Blocks.exists_blocks l

theorem fwrite_end (f : WFile) (bs : Bytes) (h : f.pos = f.data.length) :
    (f.fwrite bs).data = f.data ++ bs ∧ (f.fwrite bs).pos = (f.fwrite bs).data.length := Stdio.fwrite_end f bs h

theorem seqLoop_enc (T B : Nat) (hT : 1 ≤ T) (hB : 1 ≤ B) :
    ∀ (fuel j : Nat) (ss : List Stream) (fin : RFile) (fout : WFile) (bs : List Block) (t : Bytes),
      ss.length = T → fin.eof = false → fin.data.drop fin.pos = joinBlocks bs ++ t → t.length < 16 →
      bs.length + 1 ≤ B * fuel → fout.pos = fout.data.length →
      OutIs (seqLoop T B true fuel j ss fin fout) (fout.data ++ joinBlocks (blkLoop T B j ss (bs ++ [padBlock t]))) :=
  fun fuel j _ _ _ bs t hss _ hd ht hfuel hpos =>
    seqLoop_holds hT hB (ispad := true) fuel j hss ⟨bs, t, hd, ht, rfl⟩ (by simpa using hfuel) hpos

theorem seqLoop_dec (T B : Nat) (hT : 1 ≤ T) (hB : 1 ≤ B) :
    ∀ (fuel j : Nat) (ss : List Stream) (fin : RFile) (fout : WFile) (cs : List Block),
      ss.length = T → fin.eof = false → fin.data.drop fin.pos = joinBlocks cs → 1 ≤ cs.length →
      cs.length ≤ B * fuel → fout.pos = fout.data.length →
      OutIs (seqLoop T B false fuel j ss fin fout) (fout.data ++ unpad (blkLoop T B j ss cs)) :=
  fun fuel j _ _ _ _ hss heof hd hcs hfuel hpos =>
    seqLoop_holds hT hB (ispad := false) fuel j hss ⟨heof, hd, List.ne_nil_of_length_pos hcs⟩ hfuel hpos

theorem AllSync_replicate (T : Nat) {se sd : Stream} (h : InSync se sd) :
    AllSync (List.replicate T se) (List.replicate T sd) := by
  intro i se' sd' h1 h2
  rw [List.getElem?_replicate] at h1 h2
  split at h1
  · rename_i hi
    simp only [hi, if_true, Option.some.injEq] at h1 h2; subst h1; subst h2; exact h
  · simp at h1

/- 38 is the width of the tag field between `FILE_HMAC_MARK` = 10 and `FILE_IV_MARK` = 48; 26 = 74 - 48, where 74 = 10 + 64 is the
   least length `verify` accepts (it reads 64 bytes at offset 10) -/
theorem accepted_of_form (cfg : Cfg) (key : Block) (c h : Byte) (tag z rest : Bytes) (hz : tag.length + z.length = 38)
    (hc : c.toNat ≤ 4) (hh : h.toNat ≤ 2) (hr : 26 ≤ rest.length) (htag : tagOf cfg.H h.toNat key rest = some tag) :
    Accepted cfg key (Gen.magicBytes ++ [c] ++ [h] ++ tag ++ z ++ rest) := by
  obtain ⟨e8, e9, e10, e48⟩ := header_fields
    (show Gen.magicBytes ++ [c] ++ [h] ++ tag ++ z ++ rest = Gen.magicBytes ++ [c] ++ [h] ++ (tag ++ z) ++ rest by
      simp only [List.append_assoc]) rfl (by simp; omega)
  refine ⟨by simp [Gen.magicBytes], by simp [Gen.magicBytes]; omega, e8 ▸ hc, e9 ▸ hh, tag, by rw [e9, e48]; exact htag, ?_⟩
  have := congrArg (List.take tag.length) e10
  rwa [List.take_take, Nat.min_eq_left (by omega), List.take_left' rfl] at this

theorem ofNat8_toNat (n : Nat) (h : n < 256) : (BitVec.ofNat 8 n).toNat = n := by
  rw [BitVec.toNat_ofNat]; exact Nat.mod_eq_of_lt h

theorem body_length {T B : Nat} (hT : 1 ≤ T) (hB : 1 ≤ B) (plain : Bytes) {ss : List Stream} (hss : ss.length = T) :
    (blkLoop T B 0 ss (splitBlocks (Spec.Wenc.pkcs7 plain)).1).length = plain.length / 16 + 1 := by
  rw [blkLoop_length hT hB _ 0 hss, Blocks.splitBlocks_fst_length, Chunks.pkcs7_length, Nat.mul_div_cancel_left _ (by decide : 0 < 16)]

/-- the file `encrypt` wrote, with its streams spelled out: `T` copies of the factory's encryptor for the mode -/
theorem encrypt_file (cfg : Cfg) (hT : 1 ≤ cfg.T) (hB : 1 ≤ cfg.B) (hH : 1 ≤ cfg.H) (ctype htype : Nat) (hc : ctype ≤ 4) (hh : htype ≤ 2)
    (key : Block) (seed plain : Bytes) (f : WFile) (he : encrypt cfg ctype htype key seed plain = .ok f) :
    ∃ (ke : Kind) (cs : List Block) (tag : Bytes), factoryKind true ctype = some ke ∧
      cs = blkLoop cfg.T cfg.B 0 (List.replicate cfg.T { kind := ke, crypt := cryptFn ke key, iv := Block.ofListD (getIV cfg.T seed) })
        (splitBlocks (Spec.Wenc.pkcs7 plain)).1 ∧
      tag = Spec.HMAC.hmac (Spec.HMAC.hashOf htype) key.toList (getIV cfg.T seed ++ joinBlocks cs) ∧
      f.data = Gen.magicBytes ++ [BitVec.ofNat 8 ctype] ++ [BitVec.ofNat 8 htype] ++ tag ++ List.replicate (38 - tag.length) 0 ++
        (getIV cfg.T seed ++ joinBlocks cs) ∧
      cs.length = plain.length / 16 + 1 ∧ tag.length ≤ 32 := by
  obtain ⟨ss, auth, tag, f', hss, -, rfl, rfl, henc, hdata⟩ := encrypt_data cfg hT hB hH ctype htype hc hh key seed plain
  obtain rfl := Except.ok.inj (he.symm.trans henc)
  obtain ⟨ke, hke, rfl⟩ := FileLogic.prepareAES_eq_ok.1 hss
  exact ⟨ke, _, _, hke, rfl, rfl, hdata, body_length hT hB plain List.length_replicate, (HmacCorrect.hmac_length_bounds ..).2⟩

theorem encrypt_accepted (cfg : Cfg) (hT : 1 ≤ cfg.T) (hB : 1 ≤ cfg.B) (hH : 1 ≤ cfg.H) (ctype htype : Nat) (hc : ctype ≤ 4) (hh : htype ≤ 2)
    (key : Block) (seed plain : Bytes) (f : WFile) (he : encrypt cfg ctype htype key seed plain = .ok f) : Accepted cfg key f.data := by
  obtain ⟨ke, cs, tag, -, -, htag, hdata, hcsl, htl⟩ := encrypt_file cfg hT hB hH ctype htype hc hh key seed plain f he
  rw [hdata]
  exact accepted_of_form cfg key (BitVec.ofNat 8 ctype) (BitVec.ofNat 8 htype) tag (List.replicate (38 - tag.length) 0) _ (by simp; omega)
    (by rw [ofNat8_toNat ctype (by omega)]; exact hc) (by rw [ofNat8_toNat htype (by omega)]; exact hh)
    (by simp only [List.length_append, getIV_length cfg.T hT seed, joinBlocks_length, hcsl]; omega)
    (by rw [ofNat8_toNat htype (by omega), htag]; exact tagOf_eq cfg.H hH htype hh key _)

theorem encrypt_ok (cfg : Cfg) (hT : 1 ≤ cfg.T) (hB : 1 ≤ cfg.B) (hH : 1 ≤ cfg.H) (ctype htype : Nat) (hc : ctype ≤ 4) (hh : htype ≤ 2)
    (key : Block) (seed plain : Bytes) : ∃ f, encrypt cfg ctype htype key seed plain = .ok f := by
  obtain ⟨ss, auth, tag, f, -, -, -, -, henc, -⟩ := encrypt_data cfg hT hB hH ctype htype hc hh key seed plain
  exact ⟨f, henc⟩

theorem encrypt_length (cfg : Cfg) (hT : 1 ≤ cfg.T) (hB : 1 ≤ cfg.B) (hH : 1 ≤ cfg.H) (ctype htype : Nat) (hc : ctype ≤ 4) (hh : htype ≤ 2)
    (key : Block) (seed plain : Bytes) (f : WFile) (he : encrypt cfg ctype htype key seed plain = .ok f) :
    f.data.length = 48 + 20 * cfg.T + 16 * (plain.length / 16 + 1) := by
  obtain ⟨ke, cs, tag, -, -, -, hdata, hcsl, htl⟩ := encrypt_file cfg hT hB hH ctype htype hc hh key seed plain f he
  rw [hdata]
  simp only [List.length_append, joinBlocks_length, List.length_replicate, getIV_length cfg.T hT seed, hcsl, List.length_singleton]
  simp [Gen.magicBytes]; omega

theorem verify_encrypt (cfg : Cfg) (hT : 1 ≤ cfg.T) (hB : 1 ≤ cfg.B) (hH : 1 ≤ cfg.H) (ctype htype : Nat) (hc : ctype ≤ 4) (hh : htype ≤ 2)
    (key : Block) (seed plain : Bytes) (f : WFile) (he : encrypt cfg ctype htype key seed plain = .ok f) :
    executeVerify cfg key f.data = .ok 0 :=
  (executeVerify_zero_iff cfg hH key f.data).2 (encrypt_accepted cfg hT hB hH ctype htype hc hh key seed plain f he)

theorem roundtrip (cfg : Cfg) (hT : 1 ≤ cfg.T) (hB : 1 ≤ cfg.B) (hH : 1 ≤ cfg.H) (ctype htype : Nat) (hc : ctype ≤ 4) (hh : htype ≤ 2)
    (key : Block) (seed plain : Bytes) (f : WFile) (he : encrypt cfg ctype htype key seed plain = .ok f) :
    ∃ out, decrypt cfg key f.data = .ok (0, out) ∧ out.data = plain := by
  have hacc := encrypt_accepted cfg hT hB hH ctype htype hc hh key seed plain f he
  obtain ⟨ke, cs, tag, hke, hcs, htag, hdata, hcsl, htl⟩ := encrypt_file cfg hT hB hH ctype htype hc hh key seed plain f he
  have hivl := getIV_length cfg.T hT seed
  -- what decrypt reads back: the cipher mode, the IVs, the body
  obtain ⟨h8, -, -, hd48⟩ := header_fields
    (show f.data = Gen.magicBytes ++ [BitVec.ofNat 8 ctype] ++ [BitVec.ofNat 8 htype] ++ (tag ++ List.replicate (38 - tag.length) 0) ++
      (getIV cfg.T seed ++ joinBlocks cs) by rw [hdata]; simp only [List.append_assoc]) rfl (by simp; omega)
  obtain ⟨sd, hsd, hdec⟩ := decrypt_accepted cfg hH key f.data hacc
  rw [h8, ofNat8_toNat ctype (by omega), hd48, List.take_left' hivl] at hsd
  obtain ⟨kd, hkd, rfl⟩ := create_eq_some.mp hsd
  refine ⟨_, hdec, ?_⟩
  have hout := seqPipeline_holds hT hB (ispad := false) (fout := WFile.empty) (X := cs)
    (ss := List.replicate cfg.T { kind := kd, crypt := cryptFn kd key, iv := Block.ofListD (getIV cfg.T seed) })
    List.length_replicate (fin := ⟨f.data, textMark cfg.T, false⟩)
    ⟨rfl, by
      show f.data.drop (48 + 20 * cfg.T) = _
      rw [← List.drop_drop, hd48]; exact List.drop_left' hivl, List.ne_nil_of_length_pos (by omega)⟩ rfl
  rw [hout.1, written_false, hcs, blkLoop_sync hT hB _ 0 List.length_replicate List.length_replicate
    (AllSync_replicate cfg.T (initial_sync key _ hke hkd)), unpad_pkcs7]
  rfl

end Wencry.Proofs.Roundtrip

section AxiomCheck
open Wencry.Proofs.Roundtrip
#print axioms encrypt_ok
#print axioms encrypt_length
#print axioms verify_encrypt
#print axioms roundtrip
#print axioms Wencry.Proofs.SeqLoop.blkLoop_sync
#print axioms seqLoop_enc
#print axioms seqLoop_dec
end AxiomCheck
