/-
The argv-level command line (Model/Getopt.lean) reduces to the token-level one (Model/Cli.lean), and the fuel of the option
loop is never exhausted.
-/
import Wencry.Proofs.CliCorrect
namespace Wencry.Proofs.Getopt
open Wencry Wencry.Model.Cli Wencry.Model.Getopt Wencry.Proofs.Cli

theorem loop_succ (argv : List Bytes) (fuel : Nat) (g : GState) (env : Env) (p : Pak) :
    loop argv (fuel + 1) g env p =
      if (getoptLong argv g).1 = .done then ⟨.ok (some p), (getoptLong argv g).2, env⟩
      else match step p (tokOf env (getoptLong argv g).1) with
        | none => ⟨.ok none, (getoptLong argv g).2, env⟩
        | some p' => loop argv fuel (getoptLong argv g).2 (envAfter env (tokOf env (getoptLong argv g).1)) p' := by
  rw [loop]
  rcases getoptLong argv g with ⟨r, g'⟩
  cases r with
  | done => rfl
  | bad =>
    simp only [parseOpt_eq, reduceCtorEq, if_false]
    cases step p (tokOf env .bad) <;> rfl
  | opt v arg =>
    simp only [parseOpt_eq, reduceCtorEq, if_false]
    cases step p (tokOf env (.opt v arg)) <;> rfl

theorem loop_exists_toks (argv : List Bytes) (fuel : Nat) (g : GState) (env : Env) (p : Pak) :
    ∃ toks, (loop argv fuel g env p).pak = .ok (run p toks) := by
  induction fuel generalizing g env p with
  | zero =>
    -- out of fuel the loop answers `.ok none`, which is what the always-failing token gives
    exact ⟨[.unknown], rfl⟩
  | succ n ih =>
    rw [loop_succ]
    split
    · exact ⟨[], rfl⟩
    · generalize tokOf env (getoptLong argv g).1 = t
      cases h : step p t with
      | none => exact ⟨[t], by simp [run, h]⟩
      | some p' =>
        obtain ⟨toks, ht⟩ := ih (getoptLong argv g).2 (envAfter env t) p'
        exact ⟨t :: toks, by simp [run, h, ht]⟩

theorem argv_transfer {P : Except Fault Outcome → Prop} (h : ∀ toks d, P (getVOpt toks d))
    (reset : GState → GState) (env : Env) (g : GState) (argv : List Bytes) : P (getVOptArgv reset env g argv).1 := by
  obtain ⟨toks, ht⟩ := loop_exists_toks argv (fuelFor argv (reset g)) (reset g) env Pak.init
  have := h toks (defaultOpens (loop argv (fuelFor argv (reset g)) (reset g) env Pak.init).env (.ok (run Pak.init toks)))
  rw [getVOpt_eq_finish] at this
  simp only [getVOptArgv, ht]
  exact this

/-- so all of `Props/C17`'s ∀-token theorems apply to argv vectors -/
theorem argv_outcome_is_token_outcome (reset : GState → GState) (env : Env) (g : GState) (argv : List Bytes) :
    ∃ toks d, (getVOptArgv reset env g argv).1 = getVOpt toks d :=
  argv_transfer (P := fun r => ∃ toks d, r = getVOpt toks d) (fun toks d => ⟨toks, d, rfl⟩) reset env g argv

def weightFrom (argv : List Bytes) (k : Nat) : Nat := ((argv.drop k).map (·.length + 1)).sum

/-- scan measure: the characters still to be taken from the cluster in progress plus the words not yet looked at -/
def mu (argv : List Bytes) (g : GState) : Nat :=
  match g.nextchar with
  | [] => weightFrom argv g.optind
  | _ :: r => r.length + 1 + weightFrom argv (g.optind + 1)

theorem weightFrom_getElem {argv : List Bytes} {i : Nat} {w : Bytes} (h : argv[i]? = some w) :
    weightFrom argv i = w.length + 1 + weightFrom argv (i + 1) := by
  induction argv generalizing i with
  | nil => simp at h
  | cons a l ih =>
    cases i with
    | zero => simp at h; subst h; simp [weightFrom]
    | succ i => simp at h; simpa [weightFrom] using ih h

theorem weightFrom_succ_le (argv : List Bytes) (k : Nat) : weightFrom argv (k + 1) ≤ weightFrom argv k := by
  cases h : argv[k]? with
  | some w => rw [weightFrom_getElem h]; omega
  | none => simp [weightFrom, List.drop_eq_nil_of_le (Nat.le_succ_of_le (List.getElem?_eq_none_iff.1 h))]

theorem weightFrom_mono (argv : List Bytes) {k k' : Nat} (h : k ≤ k') : weightFrom argv k' ≤ weightFrom argv k := by
  induction h with
  | refl => exact Nat.le_refl _
  | step _ ih => exact Nat.le_trans (weightFrom_succ_le argv _) ih

theorem mu_nil (argv : List Bytes) (i : Nat) : mu argv ⟨i, []⟩ = weightFrom argv i := rfl

theorem mu_cons (argv : List Bytes) (i : Nat) (c : Byte) (r : Bytes) :
    mu argv ⟨i, c :: r⟩ = r.length + 1 + weightFrom argv (i + 1) := rfl

theorem mu_le (argv : List Bytes) (i : Nat) (r : Bytes) : mu argv ⟨i, r⟩ ≤ r.length + weightFrom argv i := by
  cases r with
  | nil => simp [mu_nil]
  | cons c r => simpa [mu_cons] using weightFrom_succ_le argv i

theorem skipNon_ge (argv : List Bytes) (i : Nat) : i ≤ skipNon argv i := Nat.le_add_right _ _

/-- a short option leaves the scanner inside the cluster, or past the word (and past the argument it took) -/
theorem shortStep_mu (argv : List Bytes) (i : Nat) (c : Byte) (rest : Bytes) :
    mu argv (shortStep argv i c rest).2 ≤ rest.length + weightFrom argv (i + 1) := by
  have past : ∀ j, i + 1 ≤ j → mu argv ⟨j, []⟩ ≤ rest.length + weightFrom argv (i + 1) := fun j hj =>
    Nat.le_trans (weightFrom_mono argv hj) (Nat.le_add_left _ _)
  have stay : mu argv ⟨if rest.isEmpty then i + 1 else i, rest⟩ ≤ rest.length + weightFrom argv (i + 1) := by
    cases rest with
    | nil => simp [mu_nil]
    | cons a r => simp [mu_cons]
  unfold shortStep
  simp only []
  split
  · exact stay
  split
  · exact stay
  · exact stay
  · cases rest with
    | cons a r => exact past _ (by simp)
    | nil =>
      simp only [List.isEmpty_nil, Bool.not_true, if_true, Bool.false_eq_true, if_false]
      split
      · exact past _ (Nat.le_refl _)
      · exact past _ (Nat.le_succ _)

theorem longStep_mu (argv : List Bytes) (i : Nat) (body : Bytes) :
    mu argv (longStep argv i body).2 ≤ weightFrom argv (i + 1) := by
  have past : ∀ j, i + 1 ≤ j → mu argv ⟨j, []⟩ ≤ weightFrom argv (i + 1) := fun j hj => weightFrom_mono argv hj
  unfold longStep
  simp only []
  repeat' split
  all_goals exact past _ (by omega)

theorem getoptLong_decreases (argv : List Bytes) (g : GState) (h : (getoptLong argv g).1 ≠ .done) :
    mu argv (getoptLong argv g).2 < mu argv g := by
  rcases g with ⟨oi, nc⟩
  cases nc with
  | cons c rest =>
    have := shortStep_mu argv oi c rest
    simp only [getoptLong, mu_cons]
    omega
  | nil =>
    simp only [getoptLong] at h ⊢
    have hge := skipNon_ge argv oi
    have hm := weightFrom_mono argv hge
    rw [mu_nil]
    generalize skipNon argv oi = i at *
    split at h
    · exact absurd rfl h
    · rename_i w hw
      have hS := weightFrom_getElem hw
      split at h
      · exact absurd rfl h
      · rename_i body _
        have := longStep_mu argv i body
        simp at hS
        omega
      · rename_i c rest _ _
        have := shortStep_mu argv i c rest
        simp at hS
        omega
      · exact absurd rfl h

theorem mu_lt_fuel (argv : List Bytes) (g : GState) : mu argv g < fuelFor argv g := by
  rcases g with ⟨oi, nc⟩
  have h0 : weightFrom argv 0 = (argv.map (·.length + 1)).sum := by simp [weightFrom]
  have h1 := mu_le argv oi nc
  have h2 := weightFrom_mono argv (Nat.zero_le oi)
  simp only [fuelFor]
  omega

theorem loop_eq_of_mu_lt {argv : List Bytes} {n : Nat} {g : GState} {f1 f2 : Nat} (env : Env) (p : Pak)
    (hmu : mu argv g < n) (h1 : n ≤ f1) (h2 : n ≤ f2) : loop argv f1 g env p = loop argv f2 g env p := by
  induction n generalizing g env p f1 f2 with
  | zero => omega
  | succ n ih =>
    obtain ⟨f1, rfl⟩ : ∃ k, f1 = k + 1 := ⟨f1 - 1, by omega⟩
    obtain ⟨f2, rfl⟩ : ∃ k, f2 = k + 1 := ⟨f2 - 1, by omega⟩
    rw [loop_succ, loop_succ]
    split
    · rfl
    · rename_i hd
      have := getoptLong_decreases argv g hd
      split
      · rfl
      · exact ih _ _ (by omega) (by omega) (by omega)

end Wencry.Proofs.Getopt

section AxiomCheck
open Wencry.Proofs.Getopt
#print axioms loop_exists_toks
#print axioms argv_outcome_is_token_outcome
#print axioms getoptLong_decreases
#print axioms mu_lt_fuel
#print axioms loop_eq_of_mu_lt
#print axioms argv_transfer
end AxiomCheck
