/-
The file-level model runs the pipeline sequentially (`IoBuffer.seqPipeline`, reading the input stream with `loadBuffer`); the
concurrency model (Model/Pipe.lean) takes the sequence of load results as an abstract input, and its reference output is
`Pipe.seqOut`. With the loads taken from the file the two agree.
-/
import Wencry.Model.File
import Wencry.Proofs.PipeData
import Wencry.Proofs.PipeSpurious
import Wencry.Proofs.EncSpecInter
namespace Wencry.Proofs.SeqGlue
open Wencry Wencry.Model Wencry.Model.Stdio Wencry.Model.IoBuffer Wencry.Model.Modes Wencry.Model.Pipe Wencry.Proofs.PipeProgress
open Wencry.Proofs.PipeDataInv
open Wencry.Proofs.SeqLoop

-- `loadsFrom` and `streamF` occur in the statements of Props/C03.lean
/-- result of the p-th `load_buffer` call when the pipeline reads `fin` (after the first load that is not FULL nothing is loaded) -/
def loadsFrom (B : Nat) (ispad : Bool) : Nat → RFile → List Block × LSt
  | 0, fin => let r := loadBuffer B fin ispad IoBuf.new; (r.2.1.blocks, r.2.2)
  | p + 1, fin => let r := loadBuffer B fin ispad IoBuf.new; if r.2.2 = .full then loadsFrom B ispad p r.1 else ([], .nodata)

/-- the stream transformer of the real pipeline -/
def streamF (s : Stream) (b : Block) : Stream × Block := s.runcry b

theorem runF_streamF (s : Stream) (bs : List Block) : runF streamF s bs = s.run bs := by
  induction bs generalizing s with
  | nil => rfl
  | cons b bs ih =>
    simp only [Stream.run, runF, streamF] at ih ⊢
    rw [ih]

theorem loadBuffer_blocks_consumed (B : Nat) (hB : 1 ≤ B) (fin : RFile) (ispad : Bool) :
    ((loadBuffer B fin ispad IoBuf.new).2.2 ≠ .nodata → 1 ≤ (loadBuffer B fin ispad IoBuf.new).2.1.blocks.length) ∧
    ((loadBuffer B fin ispad IoBuf.new).2.2 = .nodata → (loadBuffer B fin ispad IoBuf.new).2.1.blocks.length = 0) ∧
    ((loadBuffer B fin ispad IoBuf.new).2.2 = .full →
      (loadBuffer B fin ispad IoBuf.new).1.remaining + 16 * B = fin.remaining) := by
  rw [loadBuffer_eq]
  have hlen : ((fin.data.drop fin.pos).take (16 * B)).length = min (16 * B) (fin.data.length - fin.pos) := by
    simp [List.length_take, List.length_drop]
  have hsp := Blocks.splitBlocks_fst_length ((fin.data.drop fin.pos).take (16 * B))
  generalize (fin.data.drop fin.pos).take (16 * B) = got at hlen hsp
  have h16 : 16 * B ≠ 0 := by omega
  cases ispad
  · -- without padding.  Nothing read: NODATA, by the end-of-file clause or by the last one
    by_cases h5 : got = []
    · subst h5
      by_cases h1 : fin.eof = true <;>
        simp [h1, h16, RFile.remaining, hsp, Nat.pos_of_ne_zero h16] at hlen ⊢
    · -- something read: end of file is seen when `eof` was set, the read was short (`h2`) or the look-ahead finds nothing (`¬h3`);
      -- then NODATA or FINAL as a whole block was read or not (`h4`); otherwise FULL, and the read was of `16 * B` bytes
      by_cases h1 : fin.eof = true <;> by_cases h2 : got.length < 16 * B <;>
        by_cases h3 : fin.pos + got.length < fin.data.length <;> by_cases h4 : got.length / 16 = 0 <;>
        simp [h1, h2, h3, h4, h5, RFile.peekEof, RFile.remaining, hsp] <;> omega
  · -- with padding: a read of `16 * B` bytes is FULL, any other FINAL with the padded block
    by_cases h2 : got.length = 16 * B <;>
      simp [h2, h16, RFile.remaining, hsp] <;> omega

theorem loadsFrom_zero (B : Nat) (ispad : Bool) (fin : RFile) :
    loadsFrom B ispad 0 fin = ((loadBuffer B fin ispad IoBuf.new).2.1.blocks, (loadBuffer B fin ispad IoBuf.new).2.2) := rfl

section
variable {B : Nat} {ispad : Bool} {fin : RFile} {P : Nat}

theorem loadsFrom_succ_full (p : Nat) (h : (loadBuffer B fin ispad IoBuf.new).2.2 = .full) :
    loadsFrom B ispad (p + 1) fin = loadsFrom B ispad p (loadBuffer B fin ispad IoBuf.new).1 := by
  simp [loadsFrom, h]

theorem loadsFrom_succ_nonfull (p : Nat) (h : (loadBuffer B fin ispad IoBuf.new).2.2 ≠ .full) :
    loadsFrom B ispad (p + 1) fin = ([], .nodata) := by
  simp [loadsFrom, h]

/-- a first load that is FULL shifts the input by one -/
theorem firstNonFull_succ_iff :
    FirstNonFull (fun p => loadsFrom B ispad p fin) (P + 1) ↔
      (loadBuffer B fin ispad IoBuf.new).2.2 = .full ∧
        FirstNonFull (fun p => loadsFrom B ispad p (loadBuffer B fin ispad IoBuf.new).1) P := by
  constructor
  · intro h
    have h0 : (loadBuffer B fin ispad IoBuf.new).2.2 = .full := h.2 0 (by omega)
    refine ⟨h0, ?_, fun p hp => ?_⟩
    · have := h.1; simp only [loadsFrom_succ_full P h0] at this; exact this
    · have := h.2 (p + 1) (by omega); simp only [loadsFrom_succ_full p h0] at this; exact this
  · rintro ⟨h0, h⟩
    refine ⟨?_, fun p hp => ?_⟩
    · simp only [loadsFrom_succ_full P h0]; exact h.1
    · cases p with
      | zero => exact h0
      | succ p => simp only [loadsFrom_succ_full p h0]; exact h.2 p (by omega)
end

theorem loadsFrom_wf_aux (B : Nat) (hB : 1 ≤ B) (ispad : Bool) (p : Nat) : ∀ fin : RFile,
    ((loadsFrom B ispad p fin).2 ≠ .nodata → 1 ≤ (loadsFrom B ispad p fin).1.length) ∧
    ((loadsFrom B ispad p fin).2 = .nodata → (loadsFrom B ispad p fin).1.length = 0) := by
  induction p with
  | zero =>
    intro fin
    obtain ⟨h3, h4, -⟩ := loadBuffer_blocks_consumed B hB fin ispad
    rw [loadsFrom_zero]; exact ⟨h3, h4⟩
  | succ p ih =>
    intro fin
    by_cases h : (loadBuffer B fin ispad IoBuf.new).2.2 = .full
    · rw [loadsFrom_succ_full p h]; exact ih _
    · rw [loadsFrom_succ_nonfull p h]; simp

theorem firstNonFull_exists {B : Nat} (hB : 1 ≤ B) (ispad : Bool) {n : Nat} : ∀ {fin : RFile}, fin.remaining ≤ n →
    ∃ P, FirstNonFull (fun p => loadsFrom B ispad p fin) P := by
  induction n with
  | zero =>
    intro fin hn
    refine ⟨0, ?_, fun p hp => absurd hp (Nat.not_lt_zero _)⟩
    intro hf
    have := (loadBuffer_blocks_consumed B hB fin ispad).2.2 hf
    omega
  | succ n ih =>
    intro fin hn
    by_cases h : (loadBuffer B fin ispad IoBuf.new).2.2 = .full
    · have := (loadBuffer_blocks_consumed B hB fin ispad).2.2 h
      obtain ⟨P, hP⟩ := ih (fin := (loadBuffer B fin ispad IoBuf.new).1) (by omega)
      exact ⟨P + 1, firstNonFull_succ_iff.2 ⟨h, hP⟩⟩
    · exact ⟨0, h, fun p hp => absurd hp (Nat.not_lt_zero _)⟩

theorem loadsFrom_wf (B : Nat) (hB : 1 ≤ B) (ispad : Bool) (fin : RFile) :
    Input.WF (fun p => loadsFrom B ispad p fin) ∧ ∃ P, FirstNonFull (fun p => loadsFrom B ispad p fin) P :=
  ⟨fun p => loadsFrom_wf_aux B hB ispad p fin, firstNonFull_exists hB ispad (Nat.le_refl _)⟩

theorem firstNonFull_le {B : Nat} (hB : 1 ≤ B) {ispad : Bool} {P : Nat} : ∀ {fin : RFile},
    FirstNonFull (fun p => loadsFrom B ispad p fin) P → P * (16 * B) ≤ fin.remaining := by
  induction P with
  | zero => intro fin _; omega
  | succ P ih =>
    intro fin h
    obtain ⟨h0, h1⟩ := firstNonFull_succ_iff.1 h
    have := (loadBuffer_blocks_consumed B hB fin ispad).2.2 h0
    have := ih h1
    rw [Nat.add_mul]; omega

/-- the reference state before chunk `c` is the state of stream `c % T` after the earlier chunks of its residue class -/
theorem refBefore_eq_seg {T : Nat} (hT : 1 ≤ T) (ws0 : Nat → Stream) (inp : Input) (c : Nat) :
    refBefore streamF inp T ws0 c = ((ws0 (c % T)).run (seg T (fun j => (inp j).1) 0 c (c % T))).1 := by
  induction c using Nat.strongRecOn with
  | _ c ih =>
    by_cases hc : c < T
    · rw [refBefore_lt _ _ _ hc, Nat.mod_eq_of_lt hc, seg_low hc (Nat.le_refl _)]; rfl
    · have hTc : T ≤ c := Nat.le_of_not_lt hc
      rw [refBefore_next _ _ _ hT hTc, runF_streamF, ih (c - T) (by omega), sub_mod_self hTc,
        seg_next (c := c - T) (m := c) (sub_mod_self hTc) (by omega) (by omega), Modes.run_append]

theorem loads_eq_map {B : Nat} {ispad : Bool} (P : Nat) : ∀ {fuel : Nat} {fin : RFile}, P + 1 ≤ fuel →
    FirstNonFull (fun p => loadsFrom B ispad p fin) P →
    loads B ispad fuel fin = (List.range (nChunks (fun p => loadsFrom B ispad p fin) P)).map fun p => loadsFrom B ispad p fin := by
  induction P with
  | zero =>
    intro fuel fin hfuel hP
    obtain ⟨fuel, rfl⟩ : ∃ f, fuel = f + 1 := ⟨fuel - 1, by omega⟩
    cases h : (loadBuffer B fin ispad IoBuf.new).2.2 with
    | nodata => rw [loads_nodata fuel h]; simp [nChunks, loadsFrom_zero, h]
    | final => rw [loads_final fuel h]; simp [nChunks, loadsFrom_zero, h, List.range_succ]
    | full => exact absurd h hP.1
  | succ P ih =>
    intro fuel fin hfuel hP
    obtain ⟨fuel, rfl⟩ : ∃ f, fuel = f + 1 := ⟨fuel - 1, by omega⟩
    obtain ⟨hfull, hP'⟩ := firstNonFull_succ_iff.1 hP
    have hn : nChunks (fun p => loadsFrom B ispad p fin) (P + 1)
        = nChunks (fun p => loadsFrom B ispad p (loadBuffer B fin ispad IoBuf.new).1) P + 1 := by
      simp only [nChunks, loadsFrom_succ_full P hfull]
      split <;> rfl
    rw [loads_full fuel hfull, ih (by omega) hP', hn, List.range_succ_eq_map, List.map_cons, List.map_map,
      loadsFrom_zero, hfull]
    congr 1
    apply List.map_congr_left
    intro p _
    exact (loadsFrom_succ_full p hfull).symm

theorem exportOf_refOut (ispad : Bool) (T : Nat) (ws0 : Nat → Stream) (inp : Input) (c : Nat) :
    exportOf ispad (refOut streamF inp T ws0 c) (inp c).2 = refExport streamF inp ispad T ws0 c := by
  have hl : (refOut streamF inp T ws0 c).length = (inp c).1.length := by
    rw [refOut, runF_streamF, Wencry.Proofs.Modes.run_length]
  simp only [exportOf, refExport, exportBytes, hl]

/-- `+ 2` in `hfuel` is the fuel formula of `IoBuffer.seqPipeline` -/
theorem seqPipeline_eq_seqOut (T B : Nat) (hT : 1 ≤ T) (hB : 1 ≤ B) (ispad : Bool) (ws0 : Nat → Stream) (fin : RFile) (fout : WFile)
    (happ : fout.pos = fout.data.length) (P : Nat) (hP : FirstNonFull (fun p => loadsFrom B ispad p fin) P) :
    (seqPipeline T B ispad ((List.range T).map ws0) fin fout).2.2.data
      = fout.data ++ seqOut streamF (fun p => loadsFrom B ispad p fin) ispad T ws0 (nChunks (fun p => loadsFrom B ispad p fin) P) := by
  have hfuel : P + 1 ≤ fin.remaining / (16 * B) + 2 := by
    have : P ≤ fin.remaining / (16 * B) := (Nat.le_div_iff_mul_le (by omega)).2 (firstNonFull_le hB hP)
    omega
  -- chunk `c` goes through stream `c % T` in the state `runChunks_seg` describes, which is the reference state before chunk `c`
  have hrun : ∀ n, runChunks T 0 ((List.range T).map ws0) ((List.range n).map fun c => (loadsFrom B ispad c fin).1)
      = (List.range n).map (refOut streamF (fun p => loadsFrom B ispad p fin) T ws0) := fun n => by
    rw [List.range_eq_range' (n := n), EncSpec.runChunks_seg hT ws0 _ n 0 _ fun i hi => by simp [seg_zero, hi, Modes.run_nil]]
    exact List.map_congr_left fun c _ => by rw [refOut, refBefore_eq_seg hT, runF_streamF]
  unfold seqOut
  rw [seqPipeline_eq, (Stdio.foldl_fwrite_end _ fout happ).1, exports, loads_eq_map P hfuel hP, List.map_map, List.map_map]
  simp only [Function.comp_def]
  rw [hrun, List.zipWith_map, List.zipWith_self]
  simp only [exportOf_refOut]

/-- a finished state that satisfies the control and data invariants for the loads of `fin` holds what the file-level model writes -/
theorem finished_out_eq_seqPipeline {T B : Nat} (hT : 1 ≤ T) (hB : 1 ≤ B) {ispad : Bool} {ws0 : Nat → Stream} {fin : RFile}
    {s : St Stream} {P V : Nat} (hP : FirstNonFull (fun p => loadsFrom B ispad p fin) P) (hp : PipeCtl.PInv T s)
    (hV : PipeDataInv.DI streamF (fun p => loadsFrom B ispad p fin) T ws0 ispad P V s) (hd : allDone T s) :
    s.out = (seqPipeline T B ispad ((List.range T).map ws0) fin WFile.empty).2.2.data := by
  rw [seqPipeline_eq_seqOut T B hT hB ispad ws0 fin WFile.empty rfl P hP, (PipeData.final_output hT hp hV hd).1]
  simp [WFile.empty]

/-- C03 at file level (`Props.C03.threads_write_the_file_model_output`) -/
theorem threads_write_what_seqPipeline_writes (T B : Nat) (hT : 1 ≤ T) (hB : 1 ≤ B) (ispad : Bool) (ws0 : Nat → Stream) (fin : RFile)
    (s : St Stream) (h : PipeCtl.Reach streamF (fun p => loadsFrom B ispad p fin) ispad T ws0 s) (hd : allDone T s) :
    s.out = (seqPipeline T B ispad ((List.range T).map ws0) fin WFile.empty).2.2.data := by
  obtain ⟨hwf, P, hP⟩ := loadsFrom_wf B hB ispad fin
  obtain ⟨hp, -, V, hV⟩ := PipeSpurious.reachS_inv hwf hT hP (PipeSpurious.reachS_of_reach h)
  exact finished_out_eq_seqPipeline hT hB hP hp hV hd

end Wencry.Proofs.SeqGlue
