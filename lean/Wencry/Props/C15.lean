/-
C15 — Operations repeated in one process behave as in a fresh process.
The model of the process-wide state is Model/Proc.lean; that every pipeline run ends with every buffer retired (so the live
counter returns to its starting value) is C04 (`live_zero_at_end`), that the singleton is deleted on both paths is read off
kernel/cry.cpp and checked on the real code after every operation of every history by the harness (hook H3).
-/
import Wencry.Model.Proc
import Wencry.Model.Pipe
import Wencry.Model.Getopt
namespace Wencry.Props.C15
open Wencry Wencry.Model.Proc

/-- the clean state: no singleton, live counter 0 -/
def Clean (s : PState) : Prop := s = PState.fresh

/-- every operation, on every path (success, failed verification, malformed input), leaves the process state clean and
    returns exactly what it returns in a fresh process -/
theorem op_preserves_clean_and_result (s : PState) (hs : Clean s) (op : Op) :
    Clean (runOp s op).1 ∧ (runOp s op).2 = (runOp PState.fresh op).2 ∧ (runOp s op).2 = fileResult op := by
  subst hs
  unfold runOp
  cases h : pipelineThreads op with
  | none => simp [Clean]
  -- the one fact used: the constructor's `+ T` and the run's `- T` cancel in `BitVec 8`, so `live` is 0 again
  | some T => simp [Clean, PState.fresh]

/-- any finite history: the i-th operation gives the same result and output as if run alone in a fresh process -/
theorem history_equals_fresh (ops : List Op) :
    (runOps PState.fresh ops).2 = ops.map (fun op => (runOp PState.fresh op).2) ∧ Clean (runOps PState.fresh ops).1 := by
  suffices h : ∀ s, Clean s → (runOps s ops).2 = ops.map (fun op => (runOp PState.fresh op).2) ∧ Clean (runOps s ops).1 from h _ rfl
  induction ops with
  | nil => intro s hs; exact ⟨rfl, hs⟩
  | cons op ops ih =>
    intro s hs
    obtain ⟨h1, h2, _⟩ := op_preserves_clean_and_result s hs op
    obtain ⟨i1, i2⟩ := ih _ h1
    exact ⟨by simp [runOps, i1, h2], by simpa [runOps] using i2⟩

/-- why the invariant matters: from a state that is not clean a pipeline operation does NOT behave as in a fresh process -/
theorem dirty_state_is_observable (s : PState) (hs : s.hasInstance = true ∨ s.live ≠ 0) (op : Op) (T : Nat) (hp : pipelineThreads op = some T) :
    (runOp s op).2 = .stale := by
  unfold runOp
  simp only [hp, hs, if_true]

/-- non-vacuity: encryption always runs the pipeline -/
example (cfg : Model.File.Cfg) (c h : Nat) (k : Block) (sd p : Bytes) : pipelineThreads (.enc cfg c h k sd p) = some cfg.T := rfl

/-! ### The getopt cursor (the third piece of process-wide state the property names)

Model/Getopt.lean makes glibc's scanner state explicit: `optind` and the private cursor into the option cluster being scanned.
`get_v_opt` re-initialises it on entry (`optind = 0`, repair F8), so a command line parsed after any history of accepted,
rejected or abandoned command lines gives what it gives in a fresh process. (`Props/Pinned.lean` shows that the pinned
`optind = 1` does not achieve this.) -/
section getopt
open Wencry.Model.Getopt

theorem command_line_independent_of_scanner_state (env : Env) (g : GState) (argv : List Bytes) :
    (getVOptArgv resetFixed env g argv).1 = (getVOptArgv resetFixed env GState.fresh argv).1 :=
  -- `resetFixed` ignores the state it is given: both sides scan from `GState.fresh`
  rfl

theorem command_line_history_equals_fresh (env : Env) (g : GState) (hist : List (List Bytes)) :
    runHistory resetFixed env g hist = hist.map (fun argv => (getVOptArgv resetFixed env GState.fresh argv).1) := by
  induction hist generalizing g with
  | nil => rfl
  | cons argv rest ih =>
    simp only [runHistory, List.map_cons, ih]
    rfl

/-- non-vacuity: a scan abandoned inside the cluster `-edv` does leave a non-initial scanner state behind -/
example : (getVOptArgv resetFixed ⟨[], []⟩ GState.fresh [[87], [45, 101, 100, 118]]).2 = ⟨1, [118]⟩ := by decide

end getopt

/-! ### Why the singleton must be deleted: a pipeline run on a stale buffer group (kernel-checked instance)

`get_instance()` hands back the old group when `del_instance()` was skipped; its `over` flag is still true, so no chunk is ever
loaded: every buffer is retired at once and the run "succeeds" with an empty body. (This is what `Res.stale` in Model/Proc.lean
stands for.) -/
section stale
open Wencry.Model.Pipe Wencry.Model.IoBuffer

theorem stale_singleton_yields_an_empty_body :
    let inp : Input := fun p => if p = 0 then ([Block.zero, Block.zero], .full) else if p = 1 then ([Block.zero], .final) else ([], .nodata)
    let rr := (List.replicate 60 [none, some 0, some 1]).flatten
    let fresh := runSched toyF inp true 2 (init 2 (fun _ => 0)) rr
    let stale := runSched toyF inp true 2 { init 2 (fun _ => 0) with over := true } rr
    (fresh.iopc = .done ∧ fresh.out = seqOut toyF inp true 2 (fun _ => 0) 2 ∧ fresh.out.length = 48) ∧
    (stale.iopc = .done ∧ stale.wpc 0 = .done ∧ stale.wpc 1 = .done ∧ stale.out = [] ∧ stale.pos = 0) := by
  decide +kernel

end stale

end Wencry.Props.C15
