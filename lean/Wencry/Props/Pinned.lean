/-
Negative results about the PINNED tree (before repairs F2, F8, F9), kept so that what the repairs bought is itself machine-checked:
on the pinned worker protocol (Model/PipePinned.lean) there are schedules under which (C03) a chunk is lost or exported
untransformed, (C14) a worker transforms a block of a buffer the I/O thread has not handed over, and (C04) the system
deadlocks. Each is a concrete schedule evaluated by the kernel. These are not among the 18 property files; they document the
defects recorded as `fixed` in known_findings.json (F2, F8, F9).
-/
import Wencry.Model.PipePinned
import Wencry.Model.Getopt
namespace Wencry.Props.Pinned
open Wencry Wencry.Model.Pipe Wencry.Model.PipePinned Wencry.Model.IoBuffer

private def blk7 : Block := Block.ofListD (List.replicate 16 7)
private def inp1 : Input := fun p => if p = 0 then ([blk7], .final) else ([], .nodata)
private def io (n : Nat) : List (Option Nat) := List.replicate n none
private def w (n : Nat) : List (Option Nat) := List.replicate n (some 0)

/-- C03 fails on the pinned protocol: the worker looks at its buffer before it is loaded, the I/O thread then marks it READY, the
    worker hands it straight back; every thread returns, one chunk was "exported", no block was ever transformed and the output is
    not the sequential output (here: the final chunk's bytes are missing altogether) -/
theorem pinned_chunk_not_transformed :
    let s := runPinned toyF inp1 true 1 (fun _ => 0)
      ([some 0] ++ io 5 ++ w 2 ++ io 10 ++ w 4)
    s.iopc = .done ∧ s.wpc 0 = .done ∧ s.nexp = 1 ∧ s.log = [] ∧ s.out ≠ seqOut toyF inp1 true 1 (fun _ => 0) 1 := by
  decide +kernel

/-- C14 fails on the pinned protocol: a worker transforms a block while its buffer is still EMPTY and the I/O thread is inside
    its region for it (between `load_buffer` and `set_ready`) -/
theorem pinned_ownership_violation :
    (runPinned toyF inp1 true 1 (fun _ => 0) (io 4 ++ w 2)).viol = true := by
  decide +kernel

/-- C04 fails on the pinned protocol: the worker consumes its chunk before it is READY and returns on the next look; the buffer
    stays READY forever, the I/O thread sleeps on it: no thread is enabled although the I/O thread has not returned -/
theorem pinned_deadlock :
    let s := runPinned toyF inp1 true 1 (fun _ => 0) (io 4 ++ w 5 ++ io 3 ++ w 4 ++ io 3)
    s.iopc = .sleepUpd ∧ s.wpc 0 = .done ∧ (s.buf 0).st = .ready ∧
    (stepPinned toyF inp1 true 1 s none).isNone ∧ (stepPinned toyF inp1 true 1 s (some 0)).isNone := by
  decide +kernel

/-! ### C15 on the pinned option parser (before repair F8): `optind = 1` does not reset glibc's cluster cursor -/
section getopt
open Wencry.Model.Getopt Wencry.Model.Cli

private def envG : Env := ⟨[[97]], [[98]]⟩
/-- `Wencry -edv`: rejected at `d` ("Only one mode can be specified"), the scan is abandoned with `v` unread -/
private def cmdA : List Bytes := [[87], [45, 101, 100, 118]]
/-- `Wencry -e -i a -o b` -/
private def cmdB : List Bytes := [[87], [45, 101], [45, 105], [97], [45, 111], [98]]

/-- in a fresh process `-e -i a -o b` starts an encryption; parsed in the same process right after the rejected `-edv` it is
    rejected: the stale `v` is delivered first and the word `-e` is skipped, so the command is taken for a verification without key.
    (With `-d … -k K` in place of `-e` the second command would silently run as a verification instead of a decryption.) -/
theorem pinned_getopt_cursor_survives :
    (getVOptArgv resetPinned envG GState.fresh cmdB).1.toOption = some (.run .encrypt [97] (some [98]) none 0 0 false) ∧
    (getVOptArgv resetPinned envG (getVOptArgv resetPinned envG GState.fresh cmdA).2 cmdB).1.toOption = some .diag ∧
    (getVOptArgv resetFixed envG (getVOptArgv resetFixed envG GState.fresh cmdA).2 cmdB).1.toOption =
      some (.run .encrypt [97] (some [98]) none 0 0 false) := by
  decide +kernel

end getopt

/-! ### C17 on the pinned number parsing (before repair F9): `atoi` narrows the `long` of `strtol` to `int` -/
section atoi
open Wencry.Model.Cli

/-- `(int)v` for a `long` v -/
private def toInt32 (v : Int) : Int := let r := v % 4294967296; if r ≥ 2147483648 then r - 4294967296 else r
/-- the pinned `atoi`: `strtol` clamped to the `long` range, then narrowed to `int` -/
private def atoiPinned (s : Bytes) : Int :=
  let v := atoi s
  toInt32 (if v > 9223372036854775807 then 9223372036854775807 else if v < -9223372036854775808 then -9223372036854775808 else v)

/-- `--cmode 4294967297` passed the range check as mode 1 and `--cmode -99999999999999999999` passed it too on the pinned tree; the repaired
    code (the model's `atoi` on unbounded integers, values beyond `int` invalid) rejects both -/
theorem pinned_mode_number_truncated :
    checkCtype (atoiPinned [52, 50, 57, 52, 57, 54, 55, 50, 57, 55]) = true ∧ atoiPinned [52, 50, 57, 52, 57, 54, 55, 50, 57, 55] = 1 ∧
    checkCtype (atoiPinned ([45] ++ List.replicate 20 57)) = true ∧
    checkCtype (atoi [52, 50, 57, 52, 57, 54, 55, 50, 57, 55]) = false ∧ checkCtype (atoi ([45] ++ List.replicate 20 57)) = false := by
  decide +kernel

end atoi

end Wencry.Props.Pinned
