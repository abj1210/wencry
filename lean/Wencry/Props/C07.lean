/-
C07 — SHA-1, MD5 and SHA-256 digests are the standard ones for every message.
The hypothesis `length < 2^61` is the standards' own domain (bit length < 2^64); the proofs do not use it (why: HashCorrect).
-/
import Wencry.Generated.Consts
import Wencry.Proofs.HashCorrect
namespace Wencry.Props.C07
open Wencry Wencry.Model.Hash Wencry.Model.HashBuffer Wencry.Model.Stdio

section
-- the proofs use neither `hm` nor `hpos`
set_option linter.unusedVariables false

/-- memory entry point (`getStringHash`): FIPS 180-4 / RFC 1321 digest, every message -/
theorem string_digest_is_standard (alg : Nat) (ha : alg ≤ 2) (m : Bytes) (hm : m.length < 2 ^ 61) :
    stringHash alg m = some (Spec.HMAC.hashOf alg m) := Proofs.HashCorrect.stringHash_eq alg ha m

theorem sha1_is_fips180 (m : Bytes) (hm : m.length < 2 ^ 61) : getStringHash Sha1.alg m = Spec.Hash.SHA1.hash m := Proofs.HashCorrect.sha1_string m
theorem sha256_is_fips180 (m : Bytes) (hm : m.length < 2 ^ 61) : getStringHash Sha256.alg m = Spec.Hash.SHA256.hash m := Proofs.HashCorrect.sha256_string m
theorem md5_is_rfc1321 (m : Bytes) (hm : m.length < 2 ^ 61) : getStringHash Md5.alg m = Spec.Hash.MD5.hash m := Proofs.HashCorrect.md5_string m

/-- file entry point (`getFileHash` through `filebuffer64`), any refill size H ≥ 1, optional 64-byte prefix block, any position:
    the digest of (prefix ++ file from its position to the end); the loop never runs out of the fuel the model supplies -/
theorem file_digest_is_standard (alg : Nat) (ha : alg ≤ 2) (H : Nat) (hH : 1 ≤ H) (fp : RFile) (hpos : fp.pos ≤ fp.data.length)
    (pre : Option Bytes) (hpre : ∀ p, pre = some p → p.length = 64) (hm : (pre.getD [] ++ fp.data.drop fp.pos).length < 2 ^ 61) :
    ∃ fb, fileHash alg reader (fuelFor H fp) (FB.new H fp pre) = some (Spec.HMAC.hashOf alg (pre.getD [] ++ fp.data.drop fp.pos), fb)
          ∧ fb.fp.data = fp.data := Proofs.HashCorrect.fileHash_eq alg ha H hH fp pre hpre

end

-- generated-data obligations: the constants in the source are the standards'
theorem table_sha256_k : Gen.sha256K = Spec.Hash.SHA256.K := Proofs.HashCompress.sha256K_eq
theorem init_sha1 : Sha1.init = Spec.Hash.SHA1.H0 := rfl
theorem init_sha256 : Sha256.init = Spec.Hash.SHA256.H0 := rfl
theorem init_md5 : Md5.init = Spec.Hash.MD5.H0 := rfl

/-- unknown hash numbers: the factory returns NULL -/
theorem unknown_hash (alg : Nat) (h : 2 < alg) (m : Bytes) : stringHash alg m = none := by
  obtain ⟨a, rfl⟩ : ∃ a, alg = a + 3 := ⟨alg - 3, by omega⟩
  rfl

/-- generated-data obligation: which hash-mode numbers 0..255 `HashFactory` knows, tabulated through the compiled factory on every run,
    is what the model knows -/
theorem factory_knows_the_compiled_hashes :
    ((List.range 256).all fun t => Gen.hashKnown.getD t false == (stringHash t []).isSome) = true := by
  exact all_getD_tabulated _ _ _ (by decide +kernel)

-- digest sizes, for every message: 20, 16 and 32 bytes (the file format reserves the 38 bytes from offset 10 for whichever is used)
theorem sha1_digest_length (m : Bytes) : (Spec.Hash.SHA1.hash m).length = 20 :=
  Proofs.HashCorrect.hashOf_length 0 m
theorem md5_digest_length (m : Bytes) : (Spec.Hash.MD5.hash m).length = 16 :=
  Proofs.HashCorrect.hashOf_length 1 m
theorem sha256_digest_length (m : Bytes) : (Spec.Hash.SHA256.hash m).length = 32 :=
  Proofs.HashCorrect.hashOf_length 2 m

end Wencry.Props.C07
