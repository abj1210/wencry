/-
C11 — Any byte string as input file is handled cleanly: failure, no crash, no output.
Every pointer the code dereferences on attacker-influenced values is an explicit `Fault` in the model (Model/File.lean,
Model/Hmac.lean); these theorems say no fault is reachable and what the result is. Termination of the pipeline on accepted
input is C04; memory safety of the C++ below model level is covered at run time by ASan/UBSan on the correspondence runs.
-/
import Wencry.Proofs.FileLogic
namespace Wencry.Props.C11
open Wencry Wencry.Model Wencry.Model.File Wencry.Model.Stdio Wencry.Proofs.FileLogic

/-- verification returns a result code for every byte string and key: no NULL hasher is dereferenced -/
theorem verify_never_faults (cfg : Cfg) (hH : 1 ≤ cfg.H) (key : Block) (F : Bytes) : ∃ r, verify cfg key F = .ok r :=
  ⟨_, verify_eq cfg hH key F⟩

/-- decryption never faults; a decryption that fails writes nothing at all -/
theorem failed_decrypt_writes_nothing (cfg : Cfg) (hH : 1 ≤ cfg.H) (key : Block) (F : Bytes) :
    ∃ code out, decrypt cfg key F = .ok (code, out) ∧ executeVerify cfg key F = .ok code ∧ (code ≠ 0 → out.log = [] ∧ out.data = []) :=
  decrypt_total cfg hH key F

/-- result codes: short / bad magic / out-of-range mode bytes are failures -/
theorem malformed_is_failure (cfg : Cfg) (hH : 1 ≤ cfg.H) (key : Block) (F : Bytes) (code c h : Nat) (hv : verify cfg key F = .ok (code, c, h)) :
    (code = 0 ∨ code = 1 ∨ code = 2 ∨ code = 3 ∨ code = 4) ∧
    (F.length < 8 ∨ F.take 8 ≠ Gen.magicBytes → code = 4) ∧
    (F.take 8 = Gen.magicBytes → F.length < 74 → code = 1) ∧
    (F.take 8 = Gen.magicBytes → 74 ≤ F.length → ((F.getD 8 0).toNat > 4 ∨ (F.getD 9 0).toNat > 2) → code = 3) ∧
    (code = 0 → c = (F.getD 8 0).toNat ∧ h = (F.getD 9 0).toNat) := by
  have hvd : verdict cfg key F = (code, c, h) := Except.ok.inj ((verify_eq cfg hH key F).symm.trans hv)
  by_cases hm : F.take 8 = Gen.magicBytes
  · have hbad : ¬ (F.length < 8 ∨ F.take 8 ≠ Gen.magicBytes) := by have := magic_len hm; simp [hm]; omega
    by_cases hl : F.length < 74
    · cases (verdict_short hm hl).symm.trans hvd
      exact ⟨by omega, fun h => absurd h hbad, fun _ _ => rfl, by omega, by omega⟩
    · rw [verdict_long hm (by omega)] at hvd
      by_cases hr : (F.getD 8 0).toNat > 4 ∨ (F.getD 9 0).toNat > 2
      · cases (if_pos hr).symm.trans hvd
        exact ⟨by omega, fun h => absurd h hbad, by omega, fun _ _ _ => rfl, by omega⟩
      · rw [if_neg hr] at hvd
        cases hb : Option.any _ _ <;> rw [hb] at hvd <;> cases hvd <;>
          exact ⟨by omega, fun h => absurd h hbad, by omega, fun _ _ h => absurd h hr, fun _ => ⟨rfl, rfl⟩⟩
  · cases (verdict_bad_magic hm).symm.trans hvd
    exact ⟨by omega, fun _ => rfl, fun h => absurd h hm, fun h => absurd h hm, by omega⟩

/-- success only if the file is authentic: magic, length, modes in range and the stored tag equals the recomputed one -/
theorem success_iff_authentic (cfg : Cfg) (hH : 1 ≤ cfg.H) (key : Block) (F : Bytes) :
    (∃ c h, verify cfg key F = .ok (0, c, h)) ↔ Accepted cfg key F := by
  rw [verify_eq cfg hH, ← verdict_zero_iff]
  constructor
  · rintro ⟨c, h, hv⟩; rw [Except.ok.inj hv]
  · intro h; exact ⟨_, _, by rw [← h]⟩

/-- a successful decryption writes no more bytes than the ciphertext body holds -/
theorem success_output_bounded (cfg : Cfg) (hH : 1 ≤ cfg.H) (hB : 1 ≤ cfg.B) (key : Block) (F : Bytes) (out : WFile)
    (hd : decrypt cfg key F = .ok (0, out)) : out.data.length ≤ F.length - textMark cfg.T := by
  -- `hB` is not needed: the pipeline never writes more than it finds unread, whatever the chunk size
  obtain ⟨_, s, _, rfl⟩ := decrypt_ok_zero cfg hH key F out hd
  -- the output stream starts empty, and what is unread of a stream standing at `textMark` is what lies behind it
  have hle : (IoBuffer.seqPipeline cfg.T cfg.B false (List.replicate cfg.T s) ⟨F, textMark cfg.T, false⟩ WFile.empty).2.2.data.length
      ≤ 0 + (F.length - textMark cfg.T) :=
    Proofs.SeqLoop.seqPipeline_length_le cfg.T cfg.B _ ⟨F, textMark cfg.T, false⟩ WFile.empty rfl
  rwa [Nat.zero_add] at hle

end Wencry.Props.C11
