/-
C10 — The stream objects of the five modes equal NIST SP 800-38A; decryptors invert encryptors.
-/
import Wencry.Generated.Consts
import Wencry.Proofs.CtrPosition
import Wencry.Proofs.ModesAes
namespace Wencry.Props.C10
open Wencry Wencry.Model.Modes

/-- the concrete block functions the objects are constructed with are FIPS-197 cipher / inverse cipher under the key -/
theorem cryptFn_eq (k : Kind) (key : Block) :
    cryptFn k key = if k.usesDecryptCore then Spec.AES.invCipher key else Spec.AES.cipher key :=
  Proofs.Modes.cryptFn_eq k key

/-- every encryptor object the factory creates produces the SP 800-38A output of its mode under AES-128, for every key,
    IV and list of blocks of any length -/
theorem encryptor_is_sp800_38a (mode : Nat) (key iv : Block) (s : Stream) (hs : create true mode key iv = some s) (bs : List Block) :
    (s.run bs).2 = Spec.Modes.encrypt mode (Spec.AES.cipher key) iv bs := by
  obtain ⟨k, hk, rfl⟩ := Proofs.Modes.create_eq_some.mp hs
  rw [cryptFn_eq, Proofs.Modes.usesDecryptCore_enc hk]
  exact Proofs.Modes.run_encrypt_eq hk _ iv bs

/-- every decryptor object produces the SP 800-38A decryption -/
theorem decryptor_is_sp800_38a (mode : Nat) (key iv : Block) (s : Stream) (hs : create false mode key iv = some s) (bs : List Block) :
    (s.run bs).2 = Spec.Modes.decrypt mode (Spec.AES.cipher key) (Spec.AES.invCipher key) iv bs := by
  obtain ⟨k, hk, rfl⟩ := Proofs.Modes.create_eq_some.mp hs
  rw [cryptFn_eq]
  exact Proofs.Modes.run_decrypt_eq hk _ _ iv bs

/-- CTR increments the whole 128-bit big-endian counter, with carries -/
theorem ctr_counter (iv : Block) : ctrInc iv = Spec.Modes.inc128 iv := Proofs.Modes.ctrInc_eq iv

/-- the matching decryptor restores the input when fed the same stream in the same order -/
theorem decryptor_inverts_encryptor (mode : Nat) (key iv : Block) (se sd : Stream)
    (he : create true mode key iv = some se) (hd : create false mode key iv = some sd) (bs : List Block) :
    (sd.run (se.run bs).2).2 = bs := by
  rw [encryptor_is_sp800_38a mode key iv se he, decryptor_is_sp800_38a mode key iv sd hd]
  exact Proofs.Modes.spec_decrypt_encrypt mode _ _ (fun x => Proofs.Aes.spec_invCipher_cipher key x) iv bs

/-- feeding a stream in several calls continues where the previous call stopped -/
theorem stream_continuity (s : Stream) (xs ys : List Block) :
    s.run (xs ++ ys) = (((s.run xs).1.run ys).1, (s.run xs).2 ++ ((s.run xs).1.run ys).2) := Proofs.Modes.run_append s xs ys

/-- the converse: the matching encryptor restores a ciphertext stream from what the decryptor produced, for every block list (not only
    for ciphertexts the encryptor made) — so each decryptor object is a bijection on block lists -/
theorem encryptor_inverts_decryptor (mode : Nat) (key iv : Block) (se sd : Stream)
    (he : create true mode key iv = some se) (hd : create false mode key iv = some sd) (cs : List Block) :
    (se.run (sd.run cs).2).2 = cs := by
  rw [decryptor_is_sp800_38a mode key iv sd hd, encryptor_is_sp800_38a mode key iv se he]
  exact Proofs.Modes.spec_encrypt_decrypt mode _ _ (fun x => Proofs.Aes.spec_cipher_invCipher key x) iv cs

/-- two different ciphertext streams never decrypt to the same plaintext stream under one key and IV -/
theorem decryptor_injective (mode : Nat) (key iv : Block) (sd : Stream) (hd : create false mode key iv = some sd) (c1 c2 : List Block)
    (h : (sd.run c1).2 = (sd.run c2).2) : c1 = c2 := by
  rw [decryptor_is_sp800_38a mode key iv sd hd, decryptor_is_sp800_38a mode key iv sd hd] at h
  exact Proofs.Modes.spec_decrypt_injective mode _ _ (fun x => Proofs.Aes.spec_cipher_invCipher key x) iv c1 c2 h

/-- two different plaintext streams never encrypt to the same ciphertext stream under one key and IV -/
theorem encryptor_injective (mode : Nat) (key iv : Block) (se : Stream) (he : create true mode key iv = some se) (p1 p2 : List Block)
    (h : (se.run p1).2 = (se.run p2).2) : p1 = p2 := by
  rw [encryptor_is_sp800_38a mode key iv se he, encryptor_is_sp800_38a mode key iv se he] at h
  exact Proofs.Modes.spec_encrypt_injective mode _ _ (fun x => Proofs.Aes.spec_invCipher_cipher key x) iv p1 p2 h

/-- causality: the first n output blocks are determined by the first n input blocks, whatever follows — the stream can be cut into
    chunks of any size -/
theorem stream_prefix (s : Stream) (xs ys : List Block) : (s.run (xs ++ ys)).2.take xs.length = (s.run xs).2 := by
  rw [Proofs.Modes.run_append, List.take_left' (Proofs.Modes.run_length s xs)]

/-- unknown mode numbers: the factory returns NULL, in both directions -/
theorem factory_null (isenc : Bool) (mode : Nat) (h : 4 < mode) (key iv : Block) : (create isenc mode key iv).isNone := by
  rw [Proofs.Modes.create_eq_none_iff.2 h]; rfl

/-- non-vacuity: the factory does create objects for modes 0..4 -/
example : ∀ m, m ≤ 4 → (factoryKind true m).isSome ∧ (factoryKind false m).isSome := by decide

/-- generated-data obligation: which mode numbers 0..255 `AesFactory::createCryMaster` knows, tabulated through the compiled factory on
    every run, is what the model's factory knows -/
theorem factory_knows_the_compiled_modes :
    ((List.range 256).all fun t => Gen.cipherKnownEnc.getD t false == (factoryKind true t).isSome) = true ∧
    ((List.range 256).all fun t => Gen.cipherKnownDec.getD t false == (factoryKind false t).isSome) = true :=
  ⟨all_getD_tabulated _ _ _ (by decide +kernel), all_getD_tabulated _ _ _ (by decide +kernel)⟩

/-- the position law of CTR: block j of a stream started at `iv` is block 0 of a stream started at `iv + j` (mod 2^128) fed the same input
    block. The harness suite `ctrlong` uses this as its oracle for streams of 2^27 blocks, where no reference implementation is asked. -/
theorem ctr_position_law (isenc : Bool) (key iv : Block) (s s' : Stream) (hs : create isenc 2 key iv = some s) (bs : List Block) (j : Nat)
    (hj : j < bs.length) (hs' : create isenc 2 key (Proofs.CtrPosition.addCtr iv j) = some s') :
    (s.run bs).2[j]? = (s'.run [bs[j]'hj]).2[0]? :=
  Proofs.CtrPosition.ctr_position_law isenc key iv s s' hs bs j hj hs'

/-- and after n blocks the object is the one a fresh factory creates at `iv + n` -/
theorem ctr_object_after_n_blocks (isenc : Bool) (key iv : Block) (s : Stream) (hs : create isenc 2 key iv = some s) (bs : List Block) :
    create isenc 2 key (Proofs.CtrPosition.addCtr iv bs.length) = some (s.run bs).1 := by
  rw [Proofs.CtrPosition.create_ctr_run hs, Proofs.CtrPosition.create_ctr]
  cases Proofs.CtrPosition.create_ctr_eq hs
  rfl

end Wencry.Props.C10
