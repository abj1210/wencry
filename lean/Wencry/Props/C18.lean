/-
C18 — Each cipher stream in a file starts from its own seed-dependent IV.
On the code as it is this property FAILS in one respect, recorded as known finding K2: every stream is constructed from the
first 16 bytes of the FIRST IV. That is proved here as a theorem about the model (`finding_all_streams_share_iv0`) together with
its consequence (equal plaintext chunks on different streams give equal ciphertext chunks), and replayed on the real code on
every run. What does hold is proved as well: the start IV is the SHA-1 of the seed (C02), and within one CTR stream no counter
value — hence no keystream block — is used twice before 2^128 blocks. Distinctness of chained SHA-1 outputs and absence of
counter-range overlap between streams started from different IVs would be probabilistic facts, not theorems.
-/
import Wencry.Model.Pipe
import Wencry.Proofs.CtrPosition
import Wencry.Proofs.AesCorrect
import Wencry.Proofs.EncSpec
import Wencry.Proofs.DialogCorrect
namespace Wencry.Props.C18
open Wencry Wencry.Model Wencry.Model.Modes

/-- KNOWN FINDING K2 (theorem about the code as it is): all T streams start from the same IV, the first 16 bytes of the IV area -/
theorem finding_all_streams_share_iv0 (T ctype : Nat) (key : Block) (iv : Bytes) (isenc : Bool) (ss : List Stream)
    (h : File.prepareAES T ctype key iv isenc = .ok ss) : ss.length = T ∧ ∀ s ∈ ss, s.iv = Block.ofListD iv := by
  obtain ⟨k, -, rfl⟩ := Proofs.FileLogic.prepareAES_eq_ok.1 h
  exact ⟨List.length_replicate, fun s hs => by rw [List.eq_of_mem_replicate hs]⟩

/-- consequence of K2: two equal plaintext chunks among the first T (hence on different streams) give equal ciphertext chunks -/
theorem finding_equal_chunks_equal_ciphertext (f : Stream → Block → Stream × Block) (inp : Pipe.Input) (T : Nat) (s0 : Stream) (i j : Nat)
    (hi : i < T) (hj : j < T) (he : (inp i).1 = (inp j).1) :
    Pipe.refOut f inp T (fun _ => s0) i = Pipe.refOut f inp T (fun _ => s0) j := by
  -- a chunk `c < T` is the first of its stream, which starts from `s0`
  have hb : ∀ c, c < T → Pipe.refBefore f inp T (fun _ => s0) c = s0 := fun c hc => by rw [Pipe.refBefore, dif_pos (Or.inl hc)]
  rw [Pipe.refOut, Pipe.refOut, hb i hi, hb j hj, he]

/-- the IV area is the SHA-1 chain of the caller's seed (so the start IV depends on the seed exactly through SHA-1) -/
theorem iv_area_is_sha1_chain (T : Nat) (hT : 1 ≤ T) (seed : Bytes) (hs : seed.length < 2 ^ 60) :
    File.getIV T seed = (Spec.Wenc.ivChain T seed).flatten :=
  -- `hs` is not needed: the model's SHA-1 is the specification's for messages of every length
  Proofs.EncryptData.getIV_eq T hT seed

/-- within one CTR stream the counter blocks are pairwise different for fewer than 2^128 blocks -/
theorem ctr_counters_distinct (iv : Block) (i j : Nat) (hi : i < 2 ^ 128) (hj : j < 2 ^ 128) (hij : i ≠ j) :
    Spec.Modes.ofNat128 ((Spec.Modes.toNat128 iv + i) % 2 ^ 128) ≠ Spec.Modes.ofNat128 ((Spec.Modes.toNat128 iv + j) % 2 ^ 128) := by
  intro h
  have h1 := congrArg Spec.Modes.toNat128 (show Proofs.CtrPosition.addCtr iv i = Proofs.CtrPosition.addCtr iv j from h)
  rw [Proofs.CtrPosition.toNat128_addCtr, Proofs.CtrPosition.toNat128_addCtr] at h1
  have := Proofs.Modes.toNat128_lt iv
  omega

/-- AES-128 under a fixed key is injective, so distinct counter blocks give distinct keystream blocks -/
theorem keystream_blocks_distinct (key a b : Block) (h : a ≠ b) : Spec.AES.cipher key a ≠ Spec.AES.cipher key b := by
  intro he
  apply h
  have := congrArg (Spec.AES.invCipher key) he
  rwa [Proofs.Aes.spec_invCipher_cipher, Proofs.Aes.spec_invCipher_cipher] at this

/-- the model's CTR object steps its counter by exactly one (mod 2^128) per block -/
theorem ctr_steps_by_one (iv : Block) : Spec.Modes.toNat128 (ctrInc iv) = (Spec.Modes.toNat128 iv + 1) % 2 ^ 128 :=
  Proofs.Modes.toNat128_ctrInc iv

/-! ### the interactive path (`Wencry` without arguments)
`iv_area_is_sha1_chain` is about the seed `main` is handed. In the dialogue that seed is what the user types after the hash mode
(Model/Dialog.lean, tied to the real `get_v_mod1` by the `dlgparse` suite, and through the real binary by `dialog`). -/

/-- answering the encryption dialogue one answer per line, in a non-ECB mode: the parameters handed to `main` are exactly the
    typed ones — the seed of the IV chain is the typed seed -/
theorem interactive_seed_is_the_typed_seed (opens : Bytes → Bool) (file keyText seed key : Bytes) (c h : Nat)
    (hfile : Proofs.Dialog.IsWord file) (hflen : file.length < 128) (hopen : opens file = true)
    (hkey : Base64.isValidB64 keyText = true) (hdec : Base64.getArgsKey keyText = .ok (some key))
    (hc : 1 ≤ c ∧ c ≤ 4) (hh : h ≤ 2) (hseed : Proofs.Dialog.IsWord seed) (hslen : seed.length < 256) :
    Dialog.dialogue opens (Proofs.Dialog.scriptE file keyText c h seed) =
      some { mode := 101, file := file, key := some key, ctype := c, htype := h, seed := some seed,
             out := some (Dialog.baseName file ++ Dialog.dot_wenc) } := by
  obtain ⟨hkw, hkl⟩ := Proofs.Dialog.key_word hkey
  unfold Dialog.dialogue Proofs.Dialog.scriptE
  simp only [List.append_assoc, List.cons_append, List.nil_append]
  -- the fuel `inp.length + 2` as a successor: the readers are stated for `fuel + 1`
  simp only [show ∀ n : Nat, n + 2 = (n + 1) + 1 from fun _ => rfl]
  -- `e`, then the file name
  rw [Proofs.Dialog.readFile_nl _ hfile hflen hopen]
  -- `n`: no random key, so the key text is read
  simp only [true_or, if_true, Proofs.Dialog.readFlag_n]
  rw [if_neg (by decide)]
  rw [Proofs.Dialog.readKey_nl _ hkw hkl hkey hdec]
  simp only [Option.map_some]
  -- the cipher mode, then the hash mode
  rw [Proofs.Dialog.readMode_nl (n := c) (by omega) (by simp only [Cli.checkCtype, decide_eq_true_eq]; omega)]
  simp only []
  rw [Proofs.Dialog.readMode_nl (n := h) (by omega) (by simp only [Cli.checkHtype, decide_eq_true_eq]; omega)]
  simp only []
  -- not ECB (`c ≠ 0`): the seed is asked for
  rw [if_neg (by omega)]
  rw [Proofs.Dialog.readTok_nl [] hseed]
  simp only [ge_iff_le, Nat.not_le.2 hslen, if_false]

/-- two different typed seeds reach `main` as different seeds -/
theorem interactive_seeds_distinct (opens : Bytes → Bool) (file keyText seed seed' key : Bytes) (c h : Nat)
    (hfile : Proofs.Dialog.IsWord file) (hflen : file.length < 128) (hopen : opens file = true)
    (hkey : Base64.isValidB64 keyText = true) (hdec : Base64.getArgsKey keyText = .ok (some key))
    (hc : 1 ≤ c ∧ c ≤ 4) (hh : h ≤ 2) (hseed : Proofs.Dialog.IsWord seed) (hslen : seed.length < 256)
    (hseed' : Proofs.Dialog.IsWord seed') (hslen' : seed'.length < 256) (hne : seed ≠ seed') :
    (Dialog.dialogue opens (Proofs.Dialog.scriptE file keyText c h seed)).map (·.seed) ≠
      (Dialog.dialogue opens (Proofs.Dialog.scriptE file keyText c h seed')).map (·.seed) := by
  rw [interactive_seed_is_the_typed_seed opens file keyText seed key c h hfile hflen hopen hkey hdec hc hh hseed hslen,
    interactive_seed_is_the_typed_seed opens file keyText seed' key c h hfile hflen hopen hkey hdec hc hh hseed' hslen']
  simpa using hne

end Wencry.Props.C18
