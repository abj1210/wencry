/-
C16 — Base64 codec is RFC 4648 and the key validator accepts exactly 16-byte keys.
-/
import Wencry.Generated.Consts
import Wencry.Proofs.Base64Correct
namespace Wencry.Props.C16
open Wencry Wencry.Model.Base64

theorem encode_is_rfc4648 (bs : Bytes) : hexToBase64 bs = Spec.Base64.encode bs ++ [0] := Proofs.Base64.hexToBase64_eq bs
theorem decode_inverts_encode (bs : Bytes) : base64ToHex (Spec.Base64.encode bs) = .ok (some bs) := Proofs.Base64.base64ToHex_encode bs
/-- hence the encoder loses nothing: two byte strings with the same encoding are equal (the key printed at encryption time identifies
    the key bytes) -/
theorem encode_injective (b1 b2 : Bytes) (h : Spec.Base64.encode b1 = Spec.Base64.encode b2) : b1 = b2 := by
  have h1 := decode_inverts_encode b1
  rw [h, decode_inverts_encode b2] at h1
  simpa using h1.symm

/-- the validator accepts exactly: 24 characters, 22 from the alphabet followed by "==" (the 24-character encodings of 16-byte
    values; non-canonical trailing bits in the 22nd character are tolerated and decode to 16 bytes all the same) -/
theorem validator_accepts_exactly (s : Bytes) :
    isValidB64 s = true ↔ s.length = 24 ∧ (∀ i, i < 22 → Spec.Base64.isAlphabet (s.getD i 0) = true) ∧ s.getD 22 0 = eqChar ∧ s.getD 23 0 = eqChar := by
  rw [Proofs.Base64.isValidB64_iff_body]
  constructor
  · rintro ⟨body, h1, h2, rfl⟩
    refine ⟨by simp [h1], fun i hi => ?_, by simp [List.getD_eq_getElem?_getD, h1], by simp [List.getD_eq_getElem?_getD, h1]⟩
    have : i < body.length := by omega
    rw [List.getD_eq_getElem?_getD, List.getElem?_append_left this, List.getElem?_eq_getElem this]
    exact h2 _ (List.getElem_mem _)
  · rintro ⟨h1, h2, h3, h4⟩
    refine ⟨s.take 22, by simp [h1], fun c hc => ?_, ?_⟩
    · obtain ⟨i, hi, rfl⟩ := List.mem_iff_getElem.1 hc
      have hi' : i < 22 := by simp [h1] at hi; omega
      simpa [List.getD_eq_getElem?_getD, List.getElem?_eq_getElem (show i < s.length by omega)] using h2 i hi'
    · have e : s.drop 22 = [eqChar, eqChar] := by
        rw [List.drop_eq_getElem_cons (by omega), List.drop_eq_getElem_cons (by omega), List.drop_eq_nil_of_le (by omega),
          List.getElem_eq_getD 0, List.getElem_eq_getD 0, h3, h4]
      rw [← e, List.take_append_drop]

/-- every accepted key decodes to exactly 16 bytes inside the key buffer (no table read or buffer write out of bounds) -/
theorem accepted_key_is_16_bytes (s : Bytes) (h : isValidB64 s = true) : ∃ k, getArgsKey s = .ok (some k) ∧ k.length = 16 :=
  Proofs.Base64.accepted_decodes_16 s h

/-- the key string printed at encryption is accepted and yields the same key -/
theorem printed_key_roundtrip (k : Bytes) (hk : k.length = 16) :
    isValidB64 (Spec.Base64.encode k) = true ∧ getArgsKey (Spec.Base64.encode k) = .ok (some k) :=
  Proofs.Base64.printed_key_accepted k hk

-- generated-data obligations
theorem table_b64 : ∀ i : BitVec 6, Gen.b64T i = Spec.Base64.sym i.toNat := Proofs.Base64.b64T_eq_spec
theorem table_hex_inverts_b64 : ∀ i : BitVec 6, Gen.hexT ((Gen.b64T i).truncate 7) = i.zeroExtend 8 ∧ (Gen.b64T i).toNat < 128 := Proofs.Base64.hexT_b64T

/-- non-vacuity: an accepted key exists (the encoding of sixteen zero bytes) -/
example : isValidB64 (Spec.Base64.encode (List.replicate 16 0)) = true := (printed_key_roundtrip _ (by simp)).1

/-- generated-data obligation: the alphabet test `is_base64` (with `std::isalnum` in the C locale), tabulated through the compiled
    function for every byte on every run, is the model's — this also removes `isalnum` from what has to be trusted -/
theorem alphabet_test_is_the_compiled_one : ∀ c : BitVec 8, Gen.isBase64Table.getD c.toNat false = Model.Base64.isBase64 c := by
  intro c
  have := List.all_eq_true.1 (all_getD_tabulated (fun n => isBase64 (BitVec.ofNat 8 n)) 256 Gen.isBase64Table (by decide +kernel))
    c.toNat (List.mem_range.2 c.isLt)
  simpa using this

end Wencry.Props.C16
