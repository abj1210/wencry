/-
C14 — Chunk buffers are handed over exclusively between worker and I/O thread.
-/
import Wencry.Proofs.PipeData
import Wencry.Proofs.PipeFineSpurious
namespace Wencry.Props.C14
open Wencry Wencry.Model.Pipe Wencry.Model.IoBuffer Wencry.Proofs.PipeCtl Wencry.Proofs.PipeProgress Wencry.Proofs.PipeData
open Wencry.Proofs.PipeSpurious

variable {σ : Type}

/-- a worker is at a point that reads or modifies its buffer only while the buffer is READY (the I/O thread has finished
    filling it and the worker has not yet handed it back) and the I/O thread is outside its region for that buffer -/
theorem worker_access_only_when_ready (f : σ → Block → σ × Block) (inp : Input) (hwf : inp.WF) (ispad : Bool) (T : Nat) (hT : 0 < T)
    (ws0 : Nat → σ) (s : St σ) (h : Reach f inp ispad T ws0 s) (i : Nat) (hi : i < T)
    (hw : s.wpc i = .process ∨ s.wpc i = .fetch2 ∨ (s.wpc i = .fetch ∧ (s.buf i).st ≠ .inv)) :
    (s.buf i).st = .ready ∧ ¬ ioIn s i :=
  ownership T s (reachS_ctl hwf hT (reachS_of_reach h)).1 i hi hw

/-- the I/O thread refills or flushes buffer i only while it is EMPTY/UPDATING and worker i is parked in a wait -/
theorem io_access_only_when_parked (f : σ → Block → σ × Block) (inp : Input) (hwf : inp.WF) (ispad : Bool) (T : Nat) (hT : 0 < T)
    (ws0 : Nat → σ) (s : St σ) (h : Reach f inp ispad T ws0 s) (i : Nat) (hi : i < T) (hio : ioIn s i) :
    ((s.buf i).st = .empty ∨ (s.buf i).st = .updating) ∧
    (s.wpc i = .initWait ∨ s.wpc i = .initSleep ∨ s.wpc i = .waitRdy ∨ s.wpc i = .sleepRdy) :=
  io_exclusive (reachS_ctl hwf hT (reachS_of_reach h)).1 hi hio

/-- the ghost flag raised by any access outside the protocol is never raised, under any schedule -/
theorem no_overlapping_access (f : σ → Block → σ × Block) (inp : Input) (hwf : inp.WF) (ispad : Bool) (T : Nat) (hT : 0 < T)
    (ws0 : Nat → σ) (s : St σ) (h : Reach f inp ispad T ws0 s) : s.viol = false :=
  (reachS_ctl hwf hT (reachS_of_reach h)).2

/-- every chunk is given to exactly one worker — the one that owns its position — and the chunks of one worker are processed in
    file order: the complete transformation log of worker i is its chunks i, i+T, … in increasing order, each block once -/
theorem each_chunk_to_its_owner_in_order (f : σ → Block → σ × Block) (inp : Input) (hwf : inp.WF) (ispad : Bool) (P T : Nat) (hT : 0 < T)
    (hP : FirstNonFull inp P) (ws0 : Nat → σ) (s : St σ) (h : Reach f inp ispad T ws0 s) (hd : allDone T s) (i : Nat) (hi : i < T) :
    s.log.filter (fun e => e.1 = i) = workerLog inp T (nChunks inp P) i := by
  obtain ⟨hp, -, V, hV⟩ := reachS_inv hwf hT hP (reachS_of_reach h)
  exact (final_output hT hp hV hd).2 i hi

section spurious
open Wencry.Model.PipeSpurious

/-- ownership in both directions on every state reachable under any schedule and any pattern of spurious wake-ups -/
theorem exclusive_access_with_spurious_wakeups (f : σ → Block → σ × Block) (inp : Input) (hwf : inp.WF) (ispad : Bool) (P T : Nat)
    (hT : 0 < T) (hP : FirstNonFull inp P) (ws0 : Nat → σ) (s : St σ) (h : ReachS f inp ispad T ws0 s) (i : Nat) (hi : i < T) :
    ((s.wpc i = .process ∨ s.wpc i = .fetch2 ∨ (s.wpc i = .fetch ∧ (s.buf i).st ≠ .inv)) → (s.buf i).st = .ready ∧ ¬ ioIn s i) ∧
    (ioIn s i → ((s.buf i).st = .empty ∨ (s.buf i).st = .updating) ∧
      (s.wpc i = .initWait ∨ s.wpc i = .initSleep ∨ s.wpc i = .waitRdy ∨ s.wpc i = .sleepRdy)) :=
  -- `hP` is not needed: the control invariant holds for every well-formed input
  have hp := (reachS_ctl hwf hT h).1
  ⟨ownership T s hp i hi, io_exclusive hp hi⟩

theorem no_overlapping_access_with_spurious_wakeups (f : σ → Block → σ × Block) (inp : Input) (hwf : inp.WF) (ispad : Bool) (P T : Nat)
    (hT : 0 < T) (hP : FirstNonFull inp P) (ws0 : Nat → σ) (s : St σ) (h : ReachS f inp ispad T ws0 s) : s.viol = false :=
  -- `hP` is not needed: the control invariant holds for every well-formed input
  (reachS_ctl hwf hT h).2

theorem each_chunk_to_its_owner_in_order_with_spurious_wakeups (f : σ → Block → σ × Block) (inp : Input) (hwf : inp.WF) (ispad : Bool)
    (P T : Nat) (hT : 0 < T) (hP : FirstNonFull inp P) (ws0 : Nat → σ) (s : St σ) (h : ReachS f inp ispad T ws0 s) (hd : allDone T s)
    (i : Nat) (hi : i < T) : s.log.filter (fun e => e.1 = i) = workerLog inp T (nChunks inp P) i := by
  obtain ⟨hp, -, V, hV⟩ := reachS_inv hwf hT hP h
  exact (final_output hT hp hV hd).2 i hi

end spurious

section fine
open Wencry.Model.PipeFine Wencry.Proofs.PipeFineSpurious

/-- the ownership flag is never raised under any schedule of the mutex-level system, and the mutex discipline holds: the mutex of buffer
    i is held exactly by a thread that is inside one of its critical sections for buffer i -/
theorem no_overlapping_access_at_mutex_level (f : σ → Block → σ × Block) (inp : Input) (hwf : inp.WF) (ispad : Bool) (P T : Nat)
    (hT : 0 < T) (hP : FirstNonFull inp P) (ws0 : Nat → σ) (s : FSt σ) (h : FReach f inp ispad T ws0 s) :
    s.d.viol = false ∧ Proofs.PipeFine.LockInv T s :=
  -- `hP` is not needed: the control invariant holds for every well-formed input
  have h' := freachS_inv hwf hT (freach_freachS h)
  ⟨(reachS_ctl hwf hT h'.2).2, h'.1.1⟩

end fine

end Wencry.Props.C14
