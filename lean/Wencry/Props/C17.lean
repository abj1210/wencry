/-
C17 — Command line: no crash on any option vector; exit 0 iff the operation succeeded.
Quantifier: first all sequences of options `getopt_long` can return (one token per option with its argument), then all raw argv
vectors through the model of glibc's `getopt_long` (clusters, abbreviations, attached values); the interactive prompt mode is outside C17.
-/
import Wencry.Proofs.ProgramCorrect
import Wencry.Proofs.GetoptCorrect
namespace Wencry.Props.C17
open Wencry Wencry.Model.Cli Wencry.Proofs.Cli

/-- no fault (NULL handle or key passed on, key buffer overrun) for any option vector -/
theorem never_faults (toks : List Tok) (d : Bool) : ∃ o, getVOpt toks d = .ok o := getVOpt_no_fault toks d

/-- an operation is started only with every handle it dereferences present, a 16-byte key and modes in range -/
theorem operation_started_wellformed (toks : List Tok) (d : Bool) (op : Op) (inp : Bytes) (out key : Option Bytes) (c h : Int) (ne : Bool)
    (hr : getVOpt toks d = .ok (.run op inp out key c h ne)) :
    settingsOk c h = true ∧ (∀ k, key = some k → k.length = 16) ∧
    (op = .encrypt → out.isSome ∧ 0 ≤ c ∧ c ≤ 4 ∧ 0 ≤ h ∧ h ≤ 2) ∧
    (op = .decrypt → out.isSome ∧ key.isSome) ∧ (op = .verify → key.isSome) :=
  getVOpt_run_wf hr

/-- exit status 0 exactly when version or help was requested or the operation ran and succeeded; otherwise non-zero -/
theorem exit_zero_iff_success (toks : List Tok) (d : Bool) (o : Outcome) (ho : getVOpt toks d = .ok o) (r : Bool) :
    exitStatus o r = 0 ↔ (o = .info ∨ ((∃ op inp out key c h ne, o = .run op inp out key c h ne) ∧ r = true)) := by
  cases o with
  | diag => simp [exitStatus]
  | info => simp [exitStatus]
  | run op inp out key c h ne =>
    have hs := (operation_started_wellformed toks d op inp out key c h ne ho).1
    cases r <;> simp [exitStatus, hs]

/-! the documented misuses end in a diagnostic (status 1): no mode or two modes; a failing option; missing input, key or output -/
theorem no_or_two_modes_is_diagnosed (toks : List Tok) (d : Bool) (h : modeCount toks ≠ 1) : getVOpt toks d = .ok .diag := by
  obtain ⟨o, ho⟩ := never_faults toks d
  rcases getVOpt_ok ho with rfl | ⟨p, hp, hf⟩
  · exact ho
  · exact ho.trans (hf.symm.trans (finish_unset (hp.mode_unset h)))
theorem bad_option_is_diagnosed (toks : List Tok) (d : Bool) (t : Tok) (ht : t ∈ toks)
    (hbad : t = .unknown ∨ (∃ a, t = .m a) ∨ (∃ p, t = .i p false) ∨ (∃ p, t = .o p false) ∨
            (∃ a, t = .k a ∧ Model.Base64.isValidB64 a = false) ∨
            (∃ a, t = .cmode a ∧ checkCtype (atoi a) = false) ∨ (∃ a, t = .hmode a ∧ checkHtype (atoi a) = false)) :
    getVOpt toks d = .ok .diag := by
  refine getVOpt_of_failing d ht fun p => ?_
  rcases hbad with rfl | ⟨a, rfl⟩ | ⟨a, rfl⟩ | ⟨a, rfl⟩ | ⟨a, rfl, hv⟩ | ⟨a, rfl, hv⟩ | ⟨a, rfl, hv⟩ <;> simp [step, *]
theorem missing_argument_is_diagnosed (toks : List Tok) (d : Bool) (o : Outcome) (ho : getVOpt toks d = .ok o) :
    ((∀ p b, Tok.i p b ∉ toks) → (Tok.e ∈ toks ∨ Tok.d ∈ toks ∨ Tok.v ∈ toks) → o = .diag) ∧
    ((∀ a, Tok.k a ∉ toks) → (Tok.d ∈ toks ∨ Tok.v ∈ toks) → o = .diag) ∧
    ((∀ p b, Tok.o p b ∉ toks) → Tok.d ∈ toks → o = .diag) := by
  rcases getVOpt_ok ho with rfl | ⟨p, hp, hf⟩
  · simp
  -- a mode option that occurs is the mode; an input, key or output no option gave is absent; `finish` then diagnoses
  have he : Tok.e ∈ toks → p.mode = 'e' := hp.mode_of rfl
  have hd : Tok.d ∈ toks → p.mode = 'd' := hp.mode_of rfl
  have hv : Tok.v ∈ toks → p.mode = 'v' := hp.mode_of rfl
  obtain ⟨noInput, noKey, noOutput⟩ := finish_missing hf
  exact ⟨fun hn hm => noInput (hp.fp hn) (hm.imp he (Or.imp hd hv)),
    fun hn hm => noKey (hp.key hn) (hm.imp hd hv),
    fun hn hm => noOutput (hp.out hn) (hd hm)⟩

/-- with defaults, `-e -i F` writes `F.wenc` (a path too long for the default name is diagnosed) -/
theorem default_output_name (path : Bytes) (d : Bool) :
    getVOpt [.e, .i path true] d =
      .ok (if path.length + 5 < 128 ∧ d then .run .encrypt path (some (path ++ dotWenc)) none 0 0 false else .diag) :=
  default_output path d

/-- the key string printed at encryption (RFC 4648 encoding of the 16 key bytes) is accepted by `-d` and yields exactly that key:
    `-d -i F -k <printed key> -o G` starts a decryption of F into G under the same key (C16 + the parser; restoring the file is C01) -/
theorem printed_key_starts_decryption (k : Bytes) (hk : k.length = 16) (inp out : Bytes) (d : Bool) :
    getVOpt [.d, .i inp true, .k (Spec.Base64.encode k), .o out true] d = .ok (.run .decrypt inp (some out) (some k) (-1) (-1) false) :=
  decrypt_with_printed_key k hk inp out d

/-- the whole program (Model/Program.lean: options → parser → operation → exit status, over a toy file system) never faults -/
theorem program_never_faults (cfg : Model.File.Cfg) (hT : 1 ≤ cfg.T) (hB : 1 ≤ cfg.B) (hH : 1 ≤ cfg.H) (fs : Model.Program.FS)
    (canCreate : Model.Program.Path → Bool) (rkey rseed : Bytes) (hk : rkey.length = 16) (args : List Model.Program.Arg) :
    ∃ r, Model.Program.run cfg fs canCreate rkey rseed args = .ok r :=
  -- `hk` is not needed: no fault depends on the length of the random key
  Proofs.Program.run_no_fault cfg hT hB hH fs canCreate rkey rseed args

/-- "With defaults, `-e -i F` writes F.wenc and prints a key with which `-d` restores F": both runs exit 0, the second writes
    exactly F's contents to G, and F itself is untouched -/
theorem default_encrypt_then_decrypt_restores (cfg : Model.File.Cfg) (hT : 1 ≤ cfg.T) (hB : 1 ≤ cfg.B) (hH : 1 ≤ cfg.H)
    (fs : Model.Program.FS) (F G : Model.Program.Path) (P : Bytes)
    (hF : fs.read F = some P) (hlen : F.length + 5 < 128) (canCreate : Model.Program.Path → Bool)
    (hc1 : canCreate (F ++ dotWenc) = true) (hc2 : canCreate G = true) (hG : G ≠ F ++ dotWenc) (hGF : G ≠ F)
    (rkey rseed : Bytes) (hk : rkey.length = 16) :
    ∃ r1 pk, Model.Program.run cfg fs canCreate rkey rseed [.e, .i F] = .ok r1 ∧ r1.status = 0 ∧ r1.printedKey = some pk ∧
      (r1.fs.read (F ++ dotWenc)).isSome ∧ r1.fs.read F = some P ∧
      ∀ rkey' rseed', ∃ r2, Model.Program.run cfg r1.fs canCreate rkey' rseed' [.d, .i (F ++ dotWenc), .k pk, .o G] = .ok r2 ∧
        r2.status = 0 ∧ r2.fs.read G = some P ∧ r2.fs.read F = some P := by
  obtain ⟨f, hf⟩ := Proofs.Roundtrip.encrypt_ok cfg hT hB hH 0 0 (by omega) (by omega) (Block.ofListD rkey) rseed P
  obtain ⟨out, hd, hout⟩ :=
    Proofs.Roundtrip.roundtrip cfg hT hB hH 0 0 (by omega) (by omega) (Block.ofListD rkey) rseed P f hf
  have hFW : F ≠ F ++ dotWenc := fun e => by simpa [dotWenc] using congrArg List.length e
  have hrW := Proofs.Program.read_write_same fs (F ++ dotWenc) f.data
  have hrF : (fs.write (F ++ dotWenc) f.data).read F = some P := by rw [Proofs.Program.read_write_other _ _ hFW, hF]
  refine ⟨_, _, Proofs.Program.run_encrypt_default hF hlen hc1 hf, rfl, rfl, ?_, hrF, ?_⟩
  · simp only [hrW, Option.isSome_some]
  · intro rkey' rseed'
    refine ⟨_, Proofs.Program.run_decrypt_printed_key hrW hc2 hG rkey' rseed' hk hd, rfl, ?_, ?_⟩
    · simp only [Proofs.Program.read_write_same, hout]
    · simp only [Proofs.Program.read_write_other _ _ hGF.symm, hrF]

/-! ### The same statements about raw argv vectors (Model/Getopt.lean: glibc `getopt_long` on the option tables regenerated from
valget/getopts.cpp, and the option loop of `get_v_opt`), for every argv, every file-system answer and every scanner state -/
section argv
open Wencry.Model.Getopt

/-- every argv-level outcome is the token-level outcome of some token sequence, so the ∀-token theorems above apply to it -/
theorem argv_outcome_is_token_outcome (env : Env) (g : GState) (argv : List Bytes) :
    ∃ toks d, (getVOptArgv resetFixed env g argv).1 = getVOpt toks d :=
  Proofs.Getopt.argv_outcome_is_token_outcome resetFixed env g argv

/-- no option vector makes the parser fault -/
theorem argv_never_faults (env : Env) (g : GState) (argv : List Bytes) : ∃ o, (getVOptArgv resetFixed env g argv).1 = .ok o :=
  Proofs.Getopt.argv_transfer (P := fun r => ∃ o, r = .ok o) never_faults resetFixed env g argv

/-- an operation is started from an argv only with every handle present, a 16-byte key and modes in range -/
theorem argv_operation_started_wellformed (env : Env) (g : GState) (argv : List Bytes) (op : Op) (inp : Bytes) (out key : Option Bytes)
    (c h : Int) (ne : Bool) (hr : (getVOptArgv resetFixed env g argv).1 = .ok (.run op inp out key c h ne)) :
    settingsOk c h = true ∧ (∀ k, key = some k → k.length = 16) ∧
    (op = .encrypt → out.isSome ∧ 0 ≤ c ∧ c ≤ 4 ∧ 0 ≤ h ∧ h ≤ 2) ∧
    (op = .decrypt → out.isSome ∧ key.isSome) ∧ (op = .verify → key.isSome) :=
  Proofs.Getopt.argv_transfer (P := fun r => r = .ok (.run op inp out key c h ne) → _)
    (fun toks d => operation_started_wellformed toks d op inp out key c h ne) resetFixed env g argv hr

/-- exit status 0 iff information was printed or the operation that was started succeeded -/
theorem argv_exit_zero_iff_success (env : Env) (g : GState) (argv : List Bytes) (o : Outcome)
    (ho : (getVOptArgv resetFixed env g argv).1 = .ok o) (r : Bool) :
    exitStatus o r = 0 ↔ (o = .info ∨ ((∃ op inp out key c h ne, o = .run op inp out key c h ne) ∧ r = true)) :=
  Proofs.Getopt.argv_transfer (P := fun x => x = .ok o → _) (fun toks d ho => exit_zero_iff_success toks d o ho r)
    resetFixed env g argv ho

/-- the bound on `getopt_long` calls built into the model's loop is never the reason a scan stops -/
theorem argv_scan_fuel_irrelevant (argv : List Bytes) (g : GState) (env : Env) (p : Pak) (f : Nat) (hf : fuelFor argv g ≤ f) :
    loop argv f g env p = loop argv (fuelFor argv g) g env p :=
  Proofs.Getopt.loop_eq_of_mu_lt env p (Proofs.Getopt.mu_lt_fuel argv g) hf (Nat.le_refl _)

/-- non-vacuity and spelling: `Wencry -ne --inp=F --cm 3 -oG` (cluster, abbreviation, attached values) starts a CFB encryption of F into G -/
example : (getVOptArgv resetFixed ⟨[[70]], [[71]]⟩ GState.fresh
    [[87], [45, 110, 101], [45, 45, 105, 110, 112, 61, 70], [45, 45, 99, 109], [51], [45, 111, 71]]).1.toOption =
    some (.run .encrypt [70] (some [71]) none 3 0 true) := by decide

/-- generated-data obligation: the option tables regenerated from valget/getopts.cpp stay inside what Model/Getopt.lean models of
    glibc: no optional arguments ("::" or has_arg = 2), no `W;`, default ordering (the string does not start with '+', '-' or ':'),
    and every option `getopt_long` can deliver is one the model of `parseOpts` knows (`m` is delivered and then rejected) -/
theorem option_tables_within_model :
    (Gen.longOpts.all fun e => e.2.1 ≤ 1) = true ∧
    (Gen.shortOpts.head? ≠ some 43 ∧ Gen.shortOpts.head? ≠ some 45 ∧ Gen.shortOpts.head? ≠ some 58) ∧
    ((Gen.shortOpts.zip Gen.shortOpts.tail).all fun x => !(x.1 = 58 && x.2 = 58) && !(x.1 = 87 && x.2 = 59)) = true ∧
    (Gen.longOpts.all fun e => tokOf ⟨[], []⟩ (.opt e.2.2 (some [])) != Tok.unknown) = true ∧
    ((Gen.shortOpts.filter (· ≠ 58)).all fun c => tokOf ⟨[], []⟩ (.opt c.toNat (some [])) != Tok.unknown) = true := by
  decide

/-- generated-data obligations: `check_ctype` / `check_htype` tabulated through the compiled functions for -8 … 300 are the model's range
    checks -/
theorem range_checks_are_the_compiled_ones :
    ((List.range 309).all fun j => Gen.checkCtypeTable.getD j false == checkCtype ((j : Int) - 8)) = true ∧
    ((List.range 309).all fun j => Gen.checkHtypeTable.getD j false == checkHtype ((j : Int) - 8)) = true ∧
    Gen.checkCtypeTable.length = 309 ∧ Gen.checkHtypeTable.length = 309 := by
  exact ⟨all_getD_tabulated _ _ _ (by decide +kernel), all_getD_tabulated _ _ _ (by decide +kernel), by decide +kernel, by decide +kernel⟩

/-- the `case` labels of `parseOpts` are exactly the option values the model of `parseOpts` handles (`m` has no label) -/
theorem parseOpts_case_labels_are_the_modelled_ones :
    (Gen.parseOptsCases.all fun v => tokOf ⟨[], []⟩ (.opt v (some [])) != Tok.unknown && tokOf ⟨[], []⟩ (.opt v (some [])) != Tok.m []) = true ∧
    ([101, 100, 118, 86, 104, 110, 105, 111, 107, 1, 2].all fun v => Gen.parseOptsCases.contains v) = true ∧
    Gen.parseOptsCases.length = 11 := by
  decide

end argv

end Wencry.Props.C17
