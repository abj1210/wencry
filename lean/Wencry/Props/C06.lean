/-
C06 — A wrong key is always rejected and yields no plaintext.
What is provable is the decision logic: a key is accepted only if it reproduces the stored tag, and nothing reaches the output
before that check. That two different keys produce the same tag over the same bytes is a MAC collision — a named event in the
statement, not excluded by any theorem (for every key there exist messages with any given tag).
-/
import Wencry.Proofs.FileLogic
import Wencry.Proofs.TypedKey
namespace Wencry.Props.C06
open Wencry Wencry.Model Wencry.Model.File Wencry.Model.Stdio Wencry.Proofs.FileLogic

/-- a second key is accepted for a file only if it yields the very same tag over the same bytes (key-collision event) -/
theorem wrong_key_accepted_only_on_collision (cfg : Cfg) (hH : 1 ≤ cfg.H) (key key' : Block) (F : Bytes)
    (hF : Accepted cfg key F) (hF' : Accepted cfg key' F) :
    tagOf cfg.H (F.getD 9 0).toNat key' (F.drop 48) = tagOf cfg.H (F.getD 9 0).toNat key (F.drop 48) := by
  obtain ⟨t, ht, hcmp⟩ := hF.tag
  obtain ⟨t', ht', hcmp'⟩ := hF'.tag
  -- both tags have the length of the hash mode, and both are what the file stores in that many bytes at offset 10
  have e : t.length = t'.length := Option.some.inj ((tagOf_length hH hF.htype ht).symm.trans (tagOf_length hH hF.htype ht'))
  rw [ht, ht', ← hcmp, ← hcmp', e]

/-- decryption is gated on verification: with a key that is not accepted, the result is a failure code and no byte is written -/
theorem rejected_key_writes_nothing (cfg : Cfg) (hH : 1 ≤ cfg.H) (key' : Block) (F : Bytes) (hrej : ¬ Accepted cfg key' F) :
    ∃ code out, decrypt cfg key' F = .ok (code, out) ∧ code ≠ 0 ∧ out.log = [] ∧ out.data = [] :=
  ⟨_, _, decrypt_rejected cfg hH key' F hrej, mt (verdict_zero_iff cfg key' F).1 hrej, rfl, rfl⟩

/-! ### the key as the user types it (`-k`, the dialogue)
The theorems above speak about the sixteen key bytes. Between the user and those bytes stands the base64 decoder with its table
REGENERATED from valget/base64/tab.h: it must not turn a wrong key text into the right key. -/

/-- the regenerated decode table is injective on the alphabet -/
theorem decode_table_injective_on_alphabet (c c' : Byte) (h : Base64.isBase64 c = true) (h' : Base64.isBase64 c' = true)
    (he : Proofs.TypedKey.sextet c = Proofs.TypedKey.sextet c') : c = c' :=
  Proofs.Base64.sextet_injective_on_alphabet c c' h h' he

/-- two accepted key texts that decode to the same key agree in their first 21 symbols and in the two used bits of the 22nd
    (the four unused bits are RFC 4648's non-canonical encodings, which the validator tolerates) -/
theorem typed_key_decoding_injective (s s' : Bytes) (h : Base64.isValidB64 s = true) (h' : Base64.isValidB64 s' = true) (k : Bytes)
    (hd : Base64.getArgsKey s = .ok (some k)) (hd' : Base64.getArgsKey s' = .ok (some k)) :
    (∀ i, i < 21 → s.getD i 0 = s'.getD i 0) ∧
      Proofs.TypedKey.sextet (s.getD 21 0) >>> 4 = Proofs.TypedKey.sextet (s'.getD 21 0) >>> 4 :=
  Proofs.TypedKey.typed_key_decoding_injective s s' h h' k hd hd'

/-- a typed text that differs from the right key's text in one of the first 21 symbols denotes a different key — to which
    `wrong_key_accepted_only_on_collision` then applies -/
theorem typed_wrong_text_is_wrong_key (s s' : Bytes) (h : Base64.isValidB64 s = true) (h' : Base64.isValidB64 s' = true) (k k' : Bytes)
    (hd : Base64.getArgsKey s = .ok (some k)) (hd' : Base64.getArgsKey s' = .ok (some k')) (i : Nat) (hi : i < 21)
    (hne : s.getD i 0 ≠ s'.getD i 0) : k ≠ k' :=
  Proofs.TypedKey.typed_wrong_text_is_wrong_key s s' h h' k k' hd hd' i hi hne

end Wencry.Props.C06
