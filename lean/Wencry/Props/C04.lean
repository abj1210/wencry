/-
C04 — The pipeline terminates under every schedule and input (no deadlock, lost wake-up or endless loop). Four groups of theorems:
Model/Pipe.lean; with spurious wake-ups (`std::condition_variable::wait` returning without a notification, Model/PipeSpurious.lean):
no deadlock, and no infinite execution unless the platform wakes threads spuriously for ever; at the level of the mutex operations
(Model/PipeFine.lean); and both (Model/PipeFineSpurious.lean).
-/
import Wencry.Proofs.SeqGlue
import Wencry.Proofs.PipeFineSpurious
namespace Wencry.Props.C04
open Wencry Wencry.Model.Pipe Wencry.Model.PipeSpurious Wencry.Model.IoBuffer Wencry.Proofs.PipeCtl Wencry.Proofs.PipeProgress
open Wencry.Proofs.PipeSpurious

variable {σ : Type}

/-- (a) no deadlock and no lost wake-up: in every reachable state either every thread has returned, or some thread can move -/
theorem no_deadlock (f : σ → Block → σ × Block) (inp : Input) (hwf : inp.WF) (ispad : Bool) (T : Nat) (hT : 0 < T) (ws0 : Nat → σ)
    (s : St σ) (h : Reach f inp ispad T ws0 s) : allDone T s ∨ ∃ tid, (step f inp ispad T s tid).isSome :=
  deadlock_free f inp ispad (reachS_ctl hwf hT (reachS_of_reach h)).1

/-- (b) no endless loop: every step of every thread strictly decreases a well-founded measure on reachable states -/
theorem every_step_decreases (f : σ → Block → σ × Block) (inp : Input) (hwf : inp.WF) (ispad : Bool) (P T : Nat) (hT : 0 < T)
    (hP : FirstNonFull inp P) (ws0 : Nat → σ) (s s' : St σ) (tid : Option Nat)
    (h : Reach f inp ispad T ws0 s) (hs : step f inp ispad T s tid = some s') : lt4 (mu P T s') (mu P T s) :=
  event_decreases (e := .run tid) hwf hT hP (reachS_of_reach h) rfl hs

theorem measure_well_founded : WellFounded (fun a b : Nat × Nat × Nat × Nat => lt4 a b) := lt4_wf

/-- hence there is no infinite execution, under any schedule, for any T ≥ 1 and any finite well-formed input — including the empty
    input, inputs ending exactly on a chunk boundary and more workers than chunks -/
theorem no_infinite_execution (f : σ → Block → σ × Block) (inp : Input) (hwf : inp.WF) (ispad : Bool) (P T : Nat) (hT : 0 < T)
    (hP : FirstNonFull inp P) (ws0 : Nat → σ)
    (run : Nat → St σ) (tids : Nat → Option Nat) (h0 : run 0 = init T ws0)
    (hstep : ∀ n, step f inp ispad T (run n) (tids n) = some (run (n + 1))) : False :=
  no_infinite_descent (st := stepS f inp ispad T) (R := ReachS f inp ispad T ws0) (μ := mu P T) (lt := lt4) (wf := lt4_wf)
    (good := fun e => e.isSpur = false) (hR := ReachS.step) (hdec := fun _ _ _ => event_decreases hwf hT hP)
    (run := run) (evs := fun n => .run (tids n)) (h0 := h0 ▸ ReachS.init) (hstep := hstep) (N := 0) (hfin := fun _ _ => rfl)

/-- when the I/O thread has returned every buffer is retired: the live counter is back to 0 (used by C15) -/
theorem live_zero_at_end (f : σ → Block → σ × Block) (inp : Input) (hwf : inp.WF) (ispad : Bool) (T : Nat) (hT : 0 < T) (ws0 : Nat → σ)
    (s : St σ) (h : Reach f inp ispad T ws0 s) (hd : s.iopc = .done) : s.live = 0 :=
  (reachS_ctl hwf hT (reachS_of_reach h)).1.done_live hd

/-- the inputs the file-level model produces satisfy the hypotheses (well-formed, finite) for every file and chunk size -/
theorem file_inputs_are_wellformed (B : Nat) (hB : 1 ≤ B) (ispad : Bool) (fin : Model.Stdio.RFile) :
    Input.WF (fun p => Proofs.SeqGlue.loadsFrom B ispad p fin) ∧ ∃ P, FirstNonFull (fun p => Proofs.SeqGlue.loadsFrom B ispad p fin) P :=
  Proofs.SeqGlue.loadsFrom_wf B hB ispad fin

/-- (a) still no deadlock and no lost wake-up on every state reachable under any schedule and any pattern of spurious wake-ups -/
theorem no_deadlock_with_spurious_wakeups (f : σ → Block → σ × Block) (inp : Input) (hwf : inp.WF) (ispad : Bool) (P T : Nat) (hT : 0 < T)
    (hP : FirstNonFull inp P) (ws0 : Nat → σ) (s : St σ) (h : ReachS f inp ispad T ws0 s) :
    allDone T s ∨ ∃ tid, (step f inp ispad T s tid).isSome :=
  -- `hP` is not needed: the control invariant holds for every well-formed input
  deadlock_free f inp ispad (reachS_ctl hwf hT h).1

/-- a spurious wake-up is harmless: the woken thread re-tests its predicate, finds it false and sleeps again — its next step
    restores the state exactly (this is what the `while` around every `cv.wait` buys) -/
theorem spurious_wakeup_is_undone_by_the_retest (f : σ → Block → σ × Block) (inp : Input) (hwf : inp.WF) (ispad : Bool) (P T : Nat)
    (hT : 0 < T) (hP : FirstNonFull inp P) (ws0 : Nat → σ) (s s' : St σ) (tid : Option Nat)
    (h : ReachS f inp ispad T ws0 s) (hs : spurious T s tid = some s') : step f inp ispad T s' tid = some s :=
  -- `hP` is not needed: the control invariant holds for every well-formed input
  spurious_then_retest_restores f inp ispad (reachS_ctl hwf hT h).1 hs

/-- (b) every ordinary step still decreases the measure -/
theorem every_step_decreases_with_spurious_wakeups (f : σ → Block → σ × Block) (inp : Input) (hwf : inp.WF) (ispad : Bool) (P T : Nat)
    (hT : 0 < T) (hP : FirstNonFull inp P) (ws0 : Nat → σ) (s s' : St σ) (tid : Option Nat)
    (h : ReachS f inp ispad T ws0 s) (hs : step f inp ispad T s tid = some s') : lt4 (mu P T s') (mu P T s) :=
  event_decreases (e := .run tid) hwf hT hP h rfl hs

/-- hence an execution with finitely many spurious wake-ups is finite -/
theorem no_infinite_execution_with_finitely_many_spurious_wakeups (f : σ → Block → σ × Block) (inp : Input) (hwf : inp.WF) (ispad : Bool)
    (P T : Nat) (hT : 0 < T) (hP : FirstNonFull inp P) (ws0 : Nat → σ)
    (run : Nat → St σ) (evs : Nat → Ev) (h0 : run 0 = init T ws0)
    (hstep : ∀ n, stepS f inp ispad T (run n) (evs n) = some (run (n + 1)))
    (N : Nat) (hfin : ∀ n, N ≤ n → (evs n).isSpur = false) : False :=
  no_infinite_descent (st := stepS f inp ispad T) (R := ReachS f inp ispad T ws0) (μ := mu P T) (lt := lt4) (wf := lt4_wf)
    (good := fun e => e.isSpur = false) (hR := ReachS.step) (hdec := fun _ _ _ => event_decreases hwf hT hP)
    (run := run) (evs := evs) (h0 := h0 ▸ ReachS.init) (hstep := hstep) (N := N) (hfin := hfin)

/-- non-vacuity: a spurious wake-up is possible in a reachable state (worker 0 goes to sleep in its first wait, then is woken) -/
example : (spurious 1 (runSched toyF (fun _ => ([], .nodata)) true 1 (init 1 (fun _ => 0)) [some 0]) (some 0)).isSome = true := by
  decide +kernel

section fine
open Wencry.Model.PipeFine Wencry.Model.PipeFineSpurious Wencry.Proofs.PipeFine Wencry.Proofs.PipeFineSpurious

theorem mutex_level_step_is_a_coarse_step_or_invisible (f : σ → Block → σ × Block) (inp : Input) (ispad : Bool) (T : Nat) (s s' : FSt σ)
    (tid : Tid) (h : FInv T s) (hs : fstep f inp ispad T s tid = some s') :
    Model.PipeFine.abs s' = Model.PipeFine.abs s ∨ step f inp ispad T (Model.PipeFine.abs s) tid = some (Model.PipeFine.abs s') :=
  fine_step_simulated h hs

theorem mutex_level_states_are_coarse_reachable (f : σ → Block → σ × Block) (inp : Input) (hwf : inp.WF) (ispad : Bool) (T : Nat) (hT : 0 < T)
    (ws0 : Nat → σ) (s : FSt σ) (h : FReach f inp ispad T ws0 s) : Reach f inp ispad T ws0 (Model.PipeFine.abs s) := by
  induction h with
  | init => exact Reach.init
  | step s s' tid hr hs ih =>
    have hinv := (freachS_inv hwf hT (freach_freachS hr)).1
    rcases fine_step_simulated hinv hs with h1 | h1
    · rw [h1]; exact ih
    · exact Reach.step _ _ tid ih h1

/-- no deadlock at mutex level (a thread holding a mutex is never blocked; lost wake-ups are impossible because a waiter releases the
    mutex and blocks in one step and every state change is made and notified under the mutex) -/
theorem no_deadlock_at_mutex_level (f : σ → Block → σ × Block) (inp : Input) (hwf : inp.WF) (ispad : Bool) (T : Nat) (hT : 0 < T)
    (ws0 : Nat → σ) (s : FSt σ) (h : FReach f inp ispad T ws0 s) : fAllDone T s ∨ ∃ tid, (fstep f inp ispad T s tid).isSome :=
  fine_deadlock_free f inp ispad (freachS_inv hwf hT (freach_freachS h)).1

/-- no infinite execution at mutex level -/
theorem no_infinite_execution_at_mutex_level (f : σ → Block → σ × Block) (inp : Input) (hwf : inp.WF) (ispad : Bool) (P T : Nat) (hT : 0 < T)
    (hP : FirstNonFull inp P) (ws0 : Nat → σ) (run : Nat → FSt σ) (tids : Nat → Tid) (h0 : run 0 = finit T ws0)
    (hstep : ∀ n, fstep f inp ispad T (run n) (tids n) = some (run (n + 1))) : False :=
  no_infinite_descent (st := fstepS f inp ispad T) (R := FReachS f inp ispad T ws0)
    (μ := fun s => (mu P T (Model.PipeFine.abs s), fineRank T s)) (lt := ltFine) (wf := ltFine_wf)
    (good := fun e => e.isSpur = false) (hR := FReachS.step) (hdec := fun _ _ _ => fine_event_decreases hwf hT hP)
    (run := run) (evs := fun n => .run (tids n)) (h0 := h0 ▸ FReachS.init) (hstep := hstep) (N := 0) (hfin := fun _ _ => rfl)

/-- non-vacuity: a round-robin schedule of the mutex-level system on a two-chunk input with two workers terminates with the
    sequential output (kernel evaluation) -/
example : let inp : Input := fun p => if p = 0 then ([Block.zero], .full) else if p = 1 then ([Block.zero], .final) else ([], .nodata)
    let s := frunSched toyF inp true 2 (finit 2 (fun _ => 0)) (List.replicate 120 [none, some 0, some 1]).flatten
    s.fio = .done ∧ s.fw 0 = .done ∧ s.fw 1 = .done ∧ s.d.nexp = 2 ∧ s.d.viol = false ∧ s.lock 0 = none ∧ s.lock 1 = none := by
  decide +kernel

end fine

section fineS
open Wencry.Model.PipeFine Wencry.Model.PipeFineSpurious Wencry.Proofs.PipeFine Wencry.Proofs.PipeFineSpurious

theorem no_deadlock_at_mutex_level_with_spurious_wakeups (f : σ → Block → σ × Block) (inp : Input) (hwf : inp.WF) (ispad : Bool) (T : Nat)
    (hT : 0 < T) (ws0 : Nat → σ) (s : FSt σ) (h : FReachS f inp ispad T ws0 s) :
    fAllDone T s ∨ ∃ tid, (fstep f inp ispad T s tid).isSome :=
  fine_deadlock_free f inp ispad (freachS_inv hwf hT h).1

theorem no_infinite_execution_at_mutex_level_with_finitely_many_spurious_wakeups (f : σ → Block → σ × Block) (inp : Input) (hwf : inp.WF)
    (ispad : Bool) (P T : Nat) (hT : 0 < T) (hP : FirstNonFull inp P) (ws0 : Nat → σ)
    (run : Nat → FSt σ) (evs : Nat → Ev) (h0 : run 0 = finit T ws0)
    (hstep : ∀ n, fstepS f inp ispad T (run n) (evs n) = some (run (n + 1)))
    (N : Nat) (hfin : ∀ n, N ≤ n → (evs n).isSpur = false) : False :=
  no_infinite_descent (st := fstepS f inp ispad T) (R := FReachS f inp ispad T ws0)
    (μ := fun s => (mu P T (Model.PipeFine.abs s), fineRank T s)) (lt := ltFine) (wf := ltFine_wf)
    (good := fun e => e.isSpur = false) (hR := FReachS.step) (hdec := fun _ _ _ => fine_event_decreases hwf hT hP)
    (run := run) (evs := evs) (h0 := h0 ▸ FReachS.init) (hstep := hstep) (N := N) (hfin := hfin)

end fineS

end Wencry.Props.C04
