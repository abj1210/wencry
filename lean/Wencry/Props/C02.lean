/-
C02 — The encrypted file equals the documented format built from standard primitives.
`Spec.Wenc.wenc` is written from the property text and the standards only (Spec/*.lean never mention the code).
Determinism is by construction (the file is a function of plaintext, key, modes, seed, T — and of B); the input is an immutable
value in the model (the harness hashes the real input file before and after).
-/
import Wencry.Proofs.EncSpec
import Wencry.Proofs.Roundtrip
namespace Wencry.Props.C02
open Wencry Wencry.Model Wencry.Model.File Wencry.Model.Stdio

/-- byte for byte: magic, mode bytes, RFC 2104 tag over [48, EOF) zero-filled to offset 48, chained SHA-1 IVs, PKCS#7-padded
    plaintext under FIPS-197 AES-128 in the SP 800-38A mode, chunks dealt round-robin to T continuous streams -/
theorem encrypted_file_is_documented_format (cfg : Cfg) (hT : 1 ≤ cfg.T) (hB : 1 ≤ cfg.B) (hH : 1 ≤ cfg.H) (ctype htype : Nat)
    (hc : ctype ≤ 4) (hh : htype ≤ 2) (key : Block) (seed plain : Bytes)
    (hs : seed.length < 2 ^ 50) (hp : plain.length < 2 ^ 50) (hTT : cfg.T < 2 ^ 40) :
    ∃ f, encrypt cfg ctype htype key seed plain = .ok f ∧ f.data = Spec.Wenc.wenc cfg.T cfg.B ctype htype key seed plain := by
  -- `hs`, `hp`, `hTT` are not needed: the hash and HMAC theorems hold for messages of every length
  -- the closed form of the file (`encrypt_data`), whose body, IV area and magic are the specification's
  obtain ⟨ss, auth, tag, f, hss, -, rfl, rfl, henc, hdata⟩ := Proofs.EncryptData.encrypt_data cfg hT hB hH ctype htype hc hh key seed plain
  refine ⟨f, henc, ?_⟩
  rw [hdata, Proofs.EncSpec.blkLoop_body hT hB plain hss]
  unfold Spec.Wenc.wenc
  simp only [Proofs.EncryptData.getIV_eq cfg.T hT seed, Proofs.EncSpec.ofListD_ivs cfg.T hT seed, Proofs.EncSpec.magic_eq,
    List.append_assoc, List.cons_append, List.nil_append]

/-- its length is 48 + 20 T + 16 (⌊n/16⌋ + 1) -/
theorem encrypted_length (cfg : Cfg) (hT : 1 ≤ cfg.T) (hB : 1 ≤ cfg.B) (hH : 1 ≤ cfg.H) (ctype htype : Nat) (hc : ctype ≤ 4) (hh : htype ≤ 2)
    (key : Block) (seed plain : Bytes) (f : WFile) (he : encrypt cfg ctype htype key seed plain = .ok f) :
    f.data.length = 48 + 20 * cfg.T + 16 * (plain.length / 16 + 1) :=
  Proofs.Roundtrip.encrypt_length cfg hT hB hH ctype htype hc hh key seed plain f he

/-- generated-data obligations: the layout constants in kernel/cry.h and the magic number are the documented ones -/
theorem layout_constants :
    Gen.magicBytes = Spec.Wenc.magic ∧ Gen.c_FILE_MN_MARK = 0 ∧ Gen.c_FILE_MODE_MARK = 8 ∧ Gen.c_FILE_HMAC_MARK = 10 ∧
    Gen.c_FILE_IV_MARK = 48 ∧ Gen.c_PADDING = 38 ∧ Gen.c_FILE_TEXT_MARK = (List.range 17).map (fun t => 48 + 20 * t) ∧ Gen.c_THREAD_MAX = 16 ∧
    Gen.c_BUF_SUM = 16 * Gen.c_BUF_SZ := by decide

/-- the file does not depend on the hash-buffer size `H` (an implementation parameter): two configurations with the same worker count and
    chunk size write the same bytes — so the `H` the harness compiles in is immaterial for the production value -/
theorem file_independent_of_hash_buffer (c1 c2 : Cfg) (hT : 1 ≤ c1.T) (hB : 1 ≤ c1.B) (h1 : 1 ≤ c1.H) (h2 : 1 ≤ c2.H)
    (eT : c2.T = c1.T) (eB : c2.B = c1.B) (ctype htype : Nat) (hc : ctype ≤ 4) (hh : htype ≤ 2) (key : Block) (seed plain : Bytes)
    (hs : seed.length < 2 ^ 50) (hp : plain.length < 2 ^ 50) (hTT : c1.T < 2 ^ 40) :
    ∃ f1 f2, encrypt c1 ctype htype key seed plain = .ok f1 ∧ encrypt c2 ctype htype key seed plain = .ok f2 ∧ f1.data = f2.data := by
  obtain ⟨f1, e1, d1⟩ := encrypted_file_is_documented_format c1 hT hB h1 ctype htype hc hh key seed plain hs hp hTT
  obtain ⟨f2, e2, d2⟩ := encrypted_file_is_documented_format c2 (eT ▸ hT) (eB ▸ hB) h2 ctype htype hc hh key seed plain hs hp (eT ▸ hTT)
  exact ⟨f1, f2, e1, e2, by rw [d1, d2, eT, eB]⟩

/-- two plaintexts with the same ⌊n/16⌋ give files of the same length: the length of the file reveals ⌊n/16⌋ and nothing else about the plaintext -/
theorem length_depends_on_block_count_only (cfg : Cfg) (hT : 1 ≤ cfg.T) (hB : 1 ≤ cfg.B) (hH : 1 ≤ cfg.H) (ctype htype : Nat) (hc : ctype ≤ 4) (hh : htype ≤ 2)
    (k1 k2 : Block) (s1 s2 p1 p2 : Bytes) (f1 f2 : WFile) (he1 : encrypt cfg ctype htype k1 s1 p1 = .ok f1) (he2 : encrypt cfg ctype htype k2 s2 p2 = .ok f2)
    (hl : p1.length / 16 = p2.length / 16) : f1.data.length = f2.data.length := by
  rw [encrypted_length cfg hT hB hH ctype htype hc hh k1 s1 p1 f1 he1, encrypted_length cfg hT hB hH ctype htype hc hh k2 s2 p2 f2 he2, hl]
end Wencry.Props.C02

section AxiomCheck
open Wencry.Props.C02
#print axioms encrypted_file_is_documented_format
end AxiomCheck
