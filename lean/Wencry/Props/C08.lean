/-
C08 — The authentication tag is RFC 2104 HMAC over IVs+ciphertext, stored at offset 10.
-/
import Wencry.Proofs.HmacCorrect
namespace Wencry.Props.C08
open Wencry Wencry.Model Wencry.Model.Stdio

section
-- the proofs use neither `hpos` nor `hm`
set_option linter.unusedVariables false

/-- for every key, hash mode and file position the tag is RFC 2104 HMAC over exactly the bytes from the position to EOF -/
theorem tag_is_rfc2104 (H : Nat) (hH : 1 ≤ H) (h : Nat) (hh : h ≤ 2) (key : Bytes) (hk : key.length = 16) (fp : RFile)
    (hpos : fp.pos ≤ fp.data.length) (hm : fp.data.length < 2 ^ 60) :
    ∃ fp', Hmac.getres H h key fp = some (Spec.HMAC.hmac (Spec.HMAC.hashOf h) key (fp.data.drop fp.pos), fp') ∧ fp'.data = fp.data :=
  Proofs.HmacCorrect.getres_eq H hH h hh key hk fp

/-- tag comparison accepts if and only if every tag byte matches (and looks at nothing else) -/
theorem compare_all_tag_bytes (H : Nat) (hH : 1 ≤ H) (h : Nat) (hh : h ≤ 2) (key : Bytes) (hk : key.length = 16) (fp : RFile)
    (hpos : fp.pos ≤ fp.data.length) (hm : fp.data.length < 2 ^ 60) (stored : Bytes) :
    Hmac.cmphmac H h key fp stored = some (decide (stored.take (Spec.HMAC.hmac (Spec.HMAC.hashOf h) key (fp.data.drop fp.pos)).length
        = Spec.HMAC.hmac (Spec.HMAC.hashOf h) key (fp.data.drop fp.pos))) :=
  Proofs.HmacCorrect.cmphmac_eq H hH h hh key hk fp stored

end

/-- the tag has the digest size of the hash mode — 20, 16 or 32 bytes — for every key and text (`compare_all_tag_bytes` compares
    exactly that many bytes), so it always fits the 38 bytes reserved from offset 10 -/
theorem tag_length (h : Nat) (key text : Bytes) : (Spec.HMAC.hmac (Spec.HMAC.hashOf h) key text).length = Spec.HMAC.tagLen h :=
  Proofs.HmacCorrect.hmac_length h key text
theorem tag_fits_reserved_area (h : Nat) (key text : Bytes) : (Spec.HMAC.hmac (Spec.HMAC.hashOf h) key text).length ≤ 32 := by
  exact (Proofs.HmacCorrect.hmac_length_bounds h key text).2

end Wencry.Props.C08
