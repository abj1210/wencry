/-
C05 — A modified encrypted file never decrypts successfully to different plaintext.
No theorem can say that a MAC is never forged; what is proved is the decision logic, reducing every accepted modification to
one of three explicit cases: (A) only bytes that carry no information differ (the gap behind the tag, or nothing that matters)
and the plaintext delivered is the original; (B) KNOWN FINDING K1: only the cipher-mode byte (offset 8, outside the MAC) was
changed to another valid mode; (C) the named event `Forged`: the file carries a tag that is valid under the secret key for a
(hash mode, authenticated bytes) pair encryption never produced.
-/
import Wencry.Proofs.Roundtrip
namespace Wencry.Props.C05
open Wencry Wencry.Model Wencry.Model.File Wencry.Model.Stdio Wencry.Proofs.FileLogic

/-- the named event: `F'` is accepted although its (hash mode, bytes from offset 48 on) differ from those of the encrypted file `F` -/
def Forged (cfg : Cfg) (key : Block) (F F' : Bytes) : Prop :=
  (F'.getD 9 0, F'.drop 48) ≠ (F.getD 9 0, F.drop 48) ∧ Accepted cfg key F'

theorem accepted_of_decrypt (cfg : Cfg) (hH : 1 ≤ cfg.H) (key : Block) (F : Bytes) (out : WFile) (hd : decrypt cfg key F = .ok (0, out)) :
    Accepted cfg key F :=
  (decrypt_zero_iff cfg hH key F).1 ⟨out, hd⟩

/-- full classification of every accepted file, relative to the output `f` of an encryption of `plain` -/
theorem tampered_file_classification (cfg : Cfg) (hT : 1 ≤ cfg.T) (hB : 1 ≤ cfg.B) (hH : 1 ≤ cfg.H) (ctype htype : Nat) (hc : ctype ≤ 4) (hh : htype ≤ 2)
    (key : Block) (seed plain : Bytes) (f : WFile) (he : encrypt cfg ctype htype key seed plain = .ok f)
    (F' : Bytes) (out' : WFile) (hd : decrypt cfg key F' = .ok (0, out')) :
    (F'.drop 48 = f.data.drop 48 ∧ F'.getD 8 0 = f.data.getD 8 0 ∧ out'.data = plain) ∨
    (F'.drop 48 = f.data.drop 48 ∧ F'.getD 9 0 = f.data.getD 9 0 ∧ F'.getD 8 0 ≠ f.data.getD 8 0 ∧ (F'.getD 8 0).toNat ≤ 4) ∨
    Forged cfg key f.data F' := by
  have hacc := accepted_of_decrypt cfg hH key F' out' hd
  by_cases h48 : F'.drop 48 = f.data.drop 48
  · by_cases h9 : F'.getD 9 0 = f.data.getD 9 0
    · by_cases h8 : F'.getD 8 0 = f.data.getD 8 0
      · obtain ⟨out, ho, hp⟩ := Proofs.Roundtrip.roundtrip cfg hT hB hH ctype htype hc hh key seed plain f he
        have := decrypt_congr cfg hH key F' f.data out' out h8 h48 hd ho
        exact Or.inl ⟨h48, h8, by rw [this, hp]⟩
      · exact Or.inr (Or.inl ⟨h48, h9, h8, hacc.ctype⟩)
    · refine Or.inr (Or.inr ⟨?_, hacc⟩)
      intro h; exact h9 (congrArg Prod.fst h)
  · refine Or.inr (Or.inr ⟨?_, hacc⟩)
    intro h; exact h48 (congrArg Prod.snd h)

/-- C05 (partial: outside case (B), the known finding): if decryption of any file succeeds, then — unless the cipher-mode byte
    alone was replaced or a tag was forged — it delivers exactly the plaintext that was encrypted -/
theorem success_implies_original_plaintext_partial (cfg : Cfg) (hT : 1 ≤ cfg.T) (hB : 1 ≤ cfg.B) (hH : 1 ≤ cfg.H) (ctype htype : Nat) (hc : ctype ≤ 4) (hh : htype ≤ 2)
    (key : Block) (seed plain : Bytes) (f : WFile) (he : encrypt cfg ctype htype key seed plain = .ok f)
    (F' : Bytes) (out' : WFile) (hd : decrypt cfg key F' = .ok (0, out'))
    (hnoK1 : F'.getD 8 0 = f.data.getD 8 0) (hnoForgery : ¬ Forged cfg key f.data F') : out'.data = plain := by
  rcases tampered_file_classification cfg hT hB hH ctype htype hc hh key seed plain f he F' out' hd with h | h | h
  · exact h.2.2
  · exact absurd hnoK1 h.2.2.1
  · exact absurd h hnoForgery

/-- KNOWN FINDING K1 as a theorem about the code as it is: acceptance does not depend on the cipher-mode byte beyond its range
    check, so replacing it by any other valid mode number yields an accepted file -/
theorem finding_mode_byte_not_authenticated (cfg : Cfg) (key : Block) (F : Bytes) (hF : Accepted cfg key F) (c' : Byte) (hc' : c'.toNat ≤ 4) :
    Accepted cfg key (F.set 8 c') := by
  have h8 : 8 < F.length := by have := hF.length; omega
  -- `set 8` changes nothing of what `Accepted` reads except byte 8, whose new value is in range
  exact hF.congr (List.take_set_of_le (Nat.le_refl 8)) List.length_set (by simpa [List.getD_eq_getElem?_getD, h8] using hc')
    (by simp [List.getD_eq_getElem?_getD]) (List.drop_set_of_lt (by omega))

end Wencry.Props.C05
