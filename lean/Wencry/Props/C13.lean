/-
C13 — An interrupted encryption never leaves a file that verifies.
What a theorem can say: the order of writes (body first, the tag last, over a zero-filled field) makes every crash state other
than the complete file unacceptable, except for one named event: the MAC of the partial content is the all-zero string.
-/
import Wencry.Proofs.Crash
namespace Wencry.Props.C13
open Wencry Wencry.Model Wencry.Model.File Wencry.Model.Stdio Wencry.Proofs.FileLogic Wencry.Proofs.Crash

/-- the writes encryption issues: sequential appends from offset 0 (zero-filled tag field), then one write of the tag at offset 10,
    the tag being computed over the complete body -/
theorem write_order (cfg : Cfg) (hT : 1 ≤ cfg.T) (hB : 1 ≤ cfg.B) (hH : 1 ≤ cfg.H) (ctype htype : Nat) (hc : ctype ≤ 4) (hh : htype ≤ 2)
    (key : Block) (seed plain : Bytes) (f : WFile) (he : encrypt cfg ctype htype key seed plain = .ok f) :
    ∃ app tag, f.log = app ++ [(10, tag)] ∧ Sequential 0 app ∧
      ((replay app).drop 10).take 38 = List.replicate 38 0 ∧ 74 ≤ (replay app).length ∧
      tagOf cfg.H htype key ((replay app).drop 48) = some tag ∧ (replay app).getD 9 0 = BitVec.ofNat 8 htype :=
  encrypt_log_shape cfg hT hB hH ctype htype hc hh key seed plain f he

/-- every crash state (any prefix of the writes, the last cut at any byte — which covers every re-chunking of the appends by stdio)
    other than the complete file: if verification accepts it, its tag field is all zero and the MAC of its content is all zero -/
theorem interrupted_encryption_rejected (cfg : Cfg) (hT : 1 ≤ cfg.T) (hB : 1 ≤ cfg.B) (hH : 1 ≤ cfg.H) (ctype htype : Nat) (hc : ctype ≤ 4) (hh : htype ≤ 2)
    (key : Block) (seed plain : Bytes) (f : WFile) (he : encrypt cfg ctype htype key seed plain = .ok f)
    (S : Bytes) (hS : S ∈ crashStates f.log) (hne : S ≠ f.data) (hacc : Accepted cfg key S) :
    (S.drop 10).take 38 = List.replicate 38 0 ∧
    ∃ t, tagOf cfg.H (S.getD 9 0).toNat key (S.drop 48) = some t ∧ t = List.replicate t.length 0 :=
  interrupted cfg hT hB hH ctype htype hc hh key seed plain f he S hS hne hacc

/-- states shorter than 74 bytes are rejected unconditionally -/
theorem short_state_rejected (cfg : Cfg) (key : Block) (S : Bytes) (h : S.length < 74) : ¬ Accepted cfg key S := by
  intro ha; have := ha.length; omega

/-- the complete file is one of the crash states: `hne` above excludes a state that exists -/
theorem complete_file_is_last_state (cfg : Cfg) (ctype htype : Nat) (key : Block) (seed plain : Bytes) (f : WFile)
    (he : encrypt cfg ctype htype key seed plain = .ok f) : f.data ∈ crashStates f.log := by
  rw [encrypt_data_eq_replay cfg ctype htype key seed plain f he]; exact final_is_crash_state f.log

end Wencry.Props.C13
