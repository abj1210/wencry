/-
C03 — Output is independent of thread scheduling; each block transformed exactly once.
Transition systems: Model/Pipe.lean (one step per critical section / unsynchronised access; a schedule is any list of thread ids), with
spurious wake-ups (Model/PipeSpurious.lean), and at the level of the mutex operations (Model/PipeFine.lean, PipeFineSpurious.lean).
-/
import Wencry.Proofs.SeqGlue
import Wencry.Proofs.EncSpec
import Wencry.Proofs.Roundtrip
import Wencry.Proofs.PipeFineSpurious
namespace Wencry.Props.C03
open Wencry Wencry.Model.Pipe Wencry.Model.IoBuffer Wencry.Proofs.PipeCtl Wencry.Proofs.PipeProgress Wencry.Proofs.PipeData
open Wencry.Proofs.PipeSpurious

variable {σ : Type}

/-- for every T ≥ 1, every per-stream transformer, every finite well-formed input and EVERY schedule: whenever all threads have
    finished, the bytes written are those of the sequential pipeline, and every block of every chunk was transformed exactly once,
    by the worker that owns the chunk (c mod T), in file order -/
theorem output_independent_of_schedule (f : σ → Block → σ × Block) (inp : Input) (hwf : inp.WF) (ispad : Bool) (P T : Nat) (hT : 0 < T)
    (hP : FirstNonFull inp P) (ws0 : Nat → σ) (s : St σ) (h : Reach f inp ispad T ws0 s) (hd : allDone T s) :
    s.out = seqOut f inp ispad T ws0 (nChunks inp P) ∧
    ∀ i, i < T → s.log.filter (fun e => e.1 = i) = workerLog inp T (nChunks inp P) i := by
  obtain ⟨hp, -, V, hV⟩ := reachS_inv hwf hT hP (reachS_of_reach h)
  exact final_output hT hp hV hd

/-- at every moment of every execution the output is the sequential output of the chunks exported so far, in order:
    nothing is dropped, duplicated or reordered -/
theorem output_always_a_prefix (f : σ → Block → σ × Block) (inp : Input) (hwf : inp.WF) (ispad : Bool) (P T : Nat) (hT : 0 < T)
    (hP : FirstNonFull inp P) (ws0 : Nat → σ) (s : St σ) (h : Reach f inp ispad T ws0 s) :
    s.nexp ≤ nChunks inp P ∧ s.out = seqOut f inp ispad T ws0 s.nexp := by
  obtain ⟨-, -, V, hV⟩ := reachS_inv hwf hT hP (reachS_of_reach h)
  exact out_prefix hV

/-- no chunk is exported while any of its blocks is untransformed: at the export step the buffer holds the complete
    reference output of the next chunk in file order -/
theorem exported_only_when_complete (f : σ → Block → σ × Block) (inp : Input) (hwf : inp.WF) (ispad : Bool) (P T : Nat) (hT : 0 < T)
    (hP : FirstNonFull inp P) (ws0 : Nat → σ) (s : St σ) (h : Reach f inp ispad T ws0 s) (he : s.iopc = .exporting) :
    s.cid s.turn = s.nexp ∧ s.nexp < nChunks inp P ∧ (s.buf s.turn).now = (s.buf s.turn).total ∧
    s.dat s.turn = refOut f inp T ws0 s.nexp ∧ s.fin s.turn = decide ((inp s.nexp).2 = .final) := by
  obtain ⟨hp, -, V, hV⟩ := reachS_inv hwf hT hP (reachS_of_reach h)
  exact export_complete hp hV he

/-- at file level: with the loads taken from the input stream, every terminal state holds exactly what the sequential
    file-level model (used by C01, C02, …) writes -/
theorem threads_write_the_file_model_output (T B : Nat) (hT : 1 ≤ T) (hB : 1 ≤ B) (ispad : Bool) (ws0 : Nat → Model.Modes.Stream)
    (fin : Model.Stdio.RFile) (s : St Model.Modes.Stream)
    (h : Reach Proofs.SeqGlue.streamF (fun p => Proofs.SeqGlue.loadsFrom B ispad p fin) ispad T ws0 s) (hd : allDone T s) :
    s.out = (seqPipeline T B ispad ((List.range T).map ws0) fin Model.Stdio.WFile.empty).2.2.data :=
  Proofs.SeqGlue.threads_write_what_seqPipeline_writes T B hT hB ispad ws0 fin s h hd

/-- end to end, encryption side: whatever the schedule, when all threads have returned the bytes the T workers and the I/O thread
    have written for plaintext `plain` are exactly the documented ciphertext body (PKCS#7, SP 800-38A over FIPS-197, chunks dealt
    round-robin to continuous streams) — C03 composed with C02 -/
theorem concurrent_encryption_writes_the_documented_body (T B : Nat) (hT : 1 ≤ T) (hB : 1 ≤ B) (ctype : Nat) (hc : ctype ≤ 4)
    (key : Block) (iv : Bytes) (plain : Bytes) (s0 : Model.Modes.Stream)
    (hs0 : Model.Modes.create true ctype key (Block.ofListD iv) = some s0) (s : St Model.Modes.Stream)
    (h : Reach Proofs.SeqGlue.streamF (fun p => Proofs.SeqGlue.loadsFrom B true p (Model.Stdio.RFile.open plain)) true T (fun _ => s0) s)
    (hd : allDone T s) :
    s.out = Spec.Wenc.body T B ctype key (Block.ofListD iv) plain := by
  have h1 := Proofs.SeqGlue.threads_write_what_seqPipeline_writes T B hT hB true (fun _ => s0) (Model.Stdio.RFile.open plain) s h hd
  have hss : Model.File.prepareAES T ctype key iv true = .ok (List.replicate T s0) := by
    obtain ⟨k, hk, rfl⟩ := Proofs.Modes.create_eq_some.mp hs0
    exact Proofs.FileLogic.prepareAES_eq_ok.2 ⟨k, hk, rfl⟩
  have h2 := Proofs.EncSpec.body_eq T B hT hB ctype hc key iv plain (List.replicate T s0) hss Model.Stdio.WFile.empty rfl
  rw [h1, List.map_const', List.length_range, h2]
  simp [Model.Stdio.WFile.empty]

/-- end to end, decryption side: for the file `f` written by an encryption of `plain`, the decryptor streams the code constructs
    exist, and whatever the schedule, when all threads have returned the bytes written are exactly `plain` — C03 composed with C01 -/
theorem concurrent_decryption_restores_the_plaintext (cfg : Model.File.Cfg) (hT : 1 ≤ cfg.T) (hB : 1 ≤ cfg.B) (hH : 1 ≤ cfg.H)
    (ctype htype : Nat) (hc : ctype ≤ 4) (hh : htype ≤ 2) (key : Block) (seed plain : Bytes) (f : Model.Stdio.WFile)
    (he : Model.File.encrypt cfg ctype htype key seed plain = .ok f) :
    ∃ s0, Model.Modes.create false (f.data.getD 8 0).toNat key (Block.ofListD ((f.data.drop 48).take (20 * cfg.T))) = some s0 ∧
      ∀ st : St Model.Modes.Stream,
        Reach Proofs.SeqGlue.streamF (fun p => Proofs.SeqGlue.loadsFrom cfg.B false p ⟨f.data, Model.File.textMark cfg.T, false⟩) false cfg.T (fun _ => s0) st →
        allDone cfg.T st → st.out = plain := by
  -- the file is accepted, so decryption is `seqPipeline` on its body (`decrypt_accepted`); the threads write what `seqPipeline`
  -- writes; and the sequential decryption gives back `plain` (`roundtrip`)
  have hv := Proofs.Roundtrip.verify_encrypt cfg hT hB hH ctype htype hc hh key seed plain f he
  obtain ⟨out, hdec, hout⟩ := Proofs.Roundtrip.roundtrip cfg hT hB hH ctype htype hc hh key seed plain f he
  obtain ⟨s0, hs0, hd0⟩ := Proofs.FileLogic.decrypt_accepted cfg hH key f.data
    ((Proofs.FileLogic.executeVerify_zero_iff cfg hH key f.data).1 hv)
  refine ⟨s0, hs0, ?_⟩
  intro st hreach hdone
  have h1 := Proofs.SeqGlue.threads_write_what_seqPipeline_writes cfg.T cfg.B hT hB false (fun _ => s0)
    ⟨f.data, Model.File.textMark cfg.T, false⟩ st hreach hdone
  rw [hd0] at hdec
  simp only [Except.ok.injEq, Prod.mk.injEq, true_and] at hdec
  rw [h1, List.map_const', List.length_range, hdec, hout]

/-- non-vacuity: terminal states are reachable (by C04 every execution ends in one); a concrete run under a round-robin
    schedule, evaluated by the kernel -/
example : let inp : Input := fun p => if p = 0 then ([Block.zero], .final) else ([], .nodata)
    let s := runSched toyF inp true 1 (init 1 (fun _ => 0)) (List.replicate 30 [none, some 0]).flatten
    s.iopc = .done ∧ s.wpc 0 = .done ∧ s.nexp = 1 ∧ s.viol = false := by decide +kernel

section spurious
open Wencry.Model.PipeSpurious

theorem output_independent_of_schedule_and_spurious_wakeups (f : σ → Block → σ × Block) (inp : Input) (hwf : inp.WF) (ispad : Bool)
    (P T : Nat) (hT : 0 < T) (hP : FirstNonFull inp P) (ws0 : Nat → σ) (s : St σ) (h : ReachS f inp ispad T ws0 s) (hd : allDone T s) :
    s.out = seqOut f inp ispad T ws0 (nChunks inp P) ∧
    ∀ i, i < T → s.log.filter (fun e => e.1 = i) = workerLog inp T (nChunks inp P) i := by
  obtain ⟨hp, -, V, hV⟩ := reachS_inv hwf hT hP h
  exact final_output hT hp hV hd

theorem output_always_a_prefix_with_spurious_wakeups (f : σ → Block → σ × Block) (inp : Input) (hwf : inp.WF) (ispad : Bool) (P T : Nat)
    (hT : 0 < T) (hP : FirstNonFull inp P) (ws0 : Nat → σ) (s : St σ) (h : ReachS f inp ispad T ws0 s) :
    s.nexp ≤ nChunks inp P ∧ s.out = seqOut f inp ispad T ws0 s.nexp := by
  obtain ⟨-, -, V, hV⟩ := reachS_inv hwf hT hP h
  exact out_prefix hV

theorem exported_only_when_complete_with_spurious_wakeups (f : σ → Block → σ × Block) (inp : Input) (hwf : inp.WF) (ispad : Bool)
    (P T : Nat) (hT : 0 < T) (hP : FirstNonFull inp P) (ws0 : Nat → σ) (s : St σ) (h : ReachS f inp ispad T ws0 s)
    (he : s.iopc = .exporting) :
    s.cid s.turn = s.nexp ∧ s.nexp < nChunks inp P ∧ (s.buf s.turn).now = (s.buf s.turn).total ∧
    s.dat s.turn = refOut f inp T ws0 s.nexp ∧ s.fin s.turn = decide ((inp s.nexp).2 = .final) := by
  obtain ⟨hp, -, V, hV⟩ := reachS_inv hwf hT hP h
  exact export_complete hp hV he

end spurious

section fine
open Wencry.Model.PipeFine Wencry.Model.PipeFineSpurious Wencry.Proofs.PipeFine Wencry.Proofs.PipeFineSpurious

/-- at mutex level with spurious wake-ups — threads preempted inside critical sections, unsynchronised accesses falling inside another
    thread's critical section, waits returning without a notification — the output is always the sequential output of the chunks
    exported so far and, when all threads have returned, the complete sequential output with every block transformed exactly once by
    its owner; together with C14's ownership flag -/
theorem output_independent_of_schedule_at_mutex_level_with_spurious_wakeups (f : σ → Block → σ × Block) (inp : Input) (hwf : inp.WF)
    (ispad : Bool) (P T : Nat) (hT : 0 < T) (hP : FirstNonFull inp P) (ws0 : Nat → σ) (s : FSt σ) (h : FReachS f inp ispad T ws0 s) :
    s.d.viol = false ∧
    (s.d.nexp ≤ nChunks inp P ∧ s.d.out = seqOut f inp ispad T ws0 s.d.nexp) ∧
    (fAllDone T s → s.d.out = seqOut f inp ispad T ws0 (nChunks inp P) ∧
       ∀ i, i < T → s.d.log.filter (fun e => e.1 = i) = workerLog inp T (nChunks inp P) i) := by
  -- the coarse state `abs s` has the same variables and is reachable with spurious wake-ups
  have hr := (freachS_inv hwf hT h).2
  obtain ⟨hp, -, V, hV⟩ := reachS_inv hwf hT hP hr
  exact ⟨(reachS_ctl hwf hT hr).2, out_prefix (s := Model.PipeFine.abs s) hV,
    fun hd => final_output (s := Model.PipeFine.abs s) hT hp hV ((fAllDone_iff T s).1 hd)⟩

/-- the same, without the ownership flag, under every schedule of the mutex-level system without spurious wake-ups -/
theorem output_independent_of_schedule_at_mutex_level (f : σ → Block → σ × Block) (inp : Input) (hwf : inp.WF) (ispad : Bool) (P T : Nat)
    (hT : 0 < T) (hP : FirstNonFull inp P) (ws0 : Nat → σ) (s : FSt σ) (h : FReach f inp ispad T ws0 s) :
    (s.d.nexp ≤ nChunks inp P ∧ s.d.out = seqOut f inp ispad T ws0 s.d.nexp) ∧
    (fAllDone T s → s.d.out = seqOut f inp ispad T ws0 (nChunks inp P) ∧
       ∀ i, i < T → s.d.log.filter (fun e => e.1 = i) = workerLog inp T (nChunks inp P) i) :=
  (output_independent_of_schedule_at_mutex_level_with_spurious_wakeups f inp hwf ispad P T hT hP ws0 s
    (freach_freachS h)).2

end fine

end Wencry.Props.C03
