/-
C09 — Single-block AES-128 equals FIPS-197 for every key/block; decryption inverts it.
The table theorems are about the tables regenerated from /repo on every run (Wencry.Gen), so a changed table entry makes a
named theorem fail.
-/
import Wencry.Proofs.AesCorrect
namespace Wencry.Props.C09
open Wencry

/-- for all 2^128 keys and 2^128 blocks the model of `encryaes::runaes_128bit` is the FIPS-197 cipher -/
theorem encrypt_is_fips197 (key blk : Block) : Model.Aes.encrypt key blk = Spec.AES.cipher key blk :=
  Proofs.Aes.aes_encrypt_eq_spec key blk

/-- … and the model of `decryaes::runaes_128bit` is the FIPS-197 inverse cipher -/
theorem decrypt_is_fips197 (key blk : Block) : Model.Aes.decrypt key blk = Spec.AES.invCipher key blk :=
  Proofs.Aes.aes_decrypt_eq_spec key blk

theorem decrypt_encrypt (key blk : Block) : Model.Aes.decrypt key (Model.Aes.encrypt key blk) = blk :=
  Proofs.Aes.aes_decrypt_encrypt key blk
theorem encrypt_decrypt (key blk : Block) : Model.Aes.encrypt key (Model.Aes.decrypt key blk) = blk := by
  rw [decrypt_is_fips197, encrypt_is_fips197, Proofs.Aes.spec_cipher_invCipher]

/-! under every key the block function is a permutation of the 2^128 blocks: injective, and onto -/
theorem encrypt_injective (key b1 b2 : Block) (h : Model.Aes.encrypt key b1 = Model.Aes.encrypt key b2) : b1 = b2 := by
  rw [← decrypt_encrypt key b1, ← decrypt_encrypt key b2, h]
theorem encrypt_surjective (key c : Block) : ∃ b, Model.Aes.encrypt key b = c ∧ ∀ b', Model.Aes.encrypt key b' = c → b' = b :=
  ⟨Model.Aes.decrypt key c, encrypt_decrypt key c, fun b' h => by rw [← h, decrypt_encrypt]⟩

/-! the same for the variants with a precomputed key schedule (what the stream objects hold) -/
theorem encryptK_is_fips197 (key blk : Block) : Model.Aes.encryptK (Model.Aes.allKeys key) blk = Spec.AES.cipher key blk := by
  rw [Proofs.Aes.aes_encryptK, Proofs.Aes.aes_encrypt_eq_spec]
theorem decryptK_is_fips197 (key blk : Block) : Model.Aes.decryptK (Model.Aes.allKeys key) blk = Spec.AES.invCipher key blk := by
  rw [Proofs.Aes.aes_decryptK, Proofs.Aes.aes_decrypt_eq_spec]

/-! generated-data obligations: the repository's tables are the standard's -/
theorem table_sbox : ∀ x : Byte, Gen.sboxT x = Spec.AES.sbox x := Proofs.Aes.sboxT_eq_spec
theorem table_rsbox : ∀ x : Byte, Gen.rsboxT x = Spec.AES.invSbox x := Proofs.Aes.rsboxT_eq_spec
theorem table_rsbox_sbox : ∀ x : Byte, Gen.rsboxT (Gen.sboxT x) = x := by
  intro x; rw [table_sbox, table_rsbox, Proofs.Aes.invSbox_sbox]
theorem table_gmul_2 : ∀ v : Byte, Model.Aes.gmul 25 v = Spec.AES.gfmul 2 v := Proofs.Aes.gmul_25
theorem table_gmul_3 : ∀ v : Byte, Model.Aes.gmul 1 v = Spec.AES.gfmul 3 v := Proofs.Aes.gmul_1
theorem table_gmul_1 : ∀ v : Byte, Model.Aes.gmul 0 v = v := Proofs.Aes.gmul_0
theorem table_gmul_14 : ∀ v : Byte, Model.Aes.gmul 223 v = Spec.AES.gfmul 0x0e v := Proofs.Aes.gmul_223
theorem table_gmul_11 : ∀ v : Byte, Model.Aes.gmul 104 v = Spec.AES.gfmul 0x0b v := Proofs.Aes.gmul_104
theorem table_gmul_13 : ∀ v : Byte, Model.Aes.gmul 238 v = Spec.AES.gfmul 0x0d v := Proofs.Aes.gmul_238
theorem table_gmul_9 : ∀ v : Byte, Model.Aes.gmul 199 v = Spec.AES.gfmul 0x09 v := Proofs.Aes.gmul_199
theorem table_rc : ∀ i, 1 ≤ i → i ≤ 10 → Model.Aes.rc i = Spec.AES.rcon i := Proofs.Aes.rc_eq_rcon

/-- non-vacuity: the statements have no hypotheses; a concrete instance (FIPS-197 C.1) evaluated by the kernel -/
example : Model.Aes.encrypt (Block.ofListD ((List.range 16).map (BitVec.ofNat 8)))
    (Block.ofListD ([0x00,0x11,0x22,0x33,0x44,0x55,0x66,0x77,0x88,0x99,0xaa,0xbb,0xcc,0xdd,0xee,0xff].map (BitVec.ofNat 8)))
  = Block.ofListD ([0x69,0xc4,0xe0,0xd8,0x6a,0x7b,0x04,0x30,0xd8,0xcd,0xb7,0x80,0x70,0xb4,0xc5,0x5a].map (BitVec.ofNat 8)) := by decide +kernel

end Wencry.Props.C09
