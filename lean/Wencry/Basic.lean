/-
Types shared by the specification, the model and the driver, followed by the lemmas about them that several proof files use
(blocks as byte lists, tabulated lists, words packed from bytes and read as numbers, members of a residue class).
Core Lean only (no Mathlib) so that the driver links as a `lean_exe`.
-/
namespace Wencry

abbrev Byte := BitVec 8
abbrev Bytes := List Byte
abbrev W32 := BitVec 32
abbrev W64 := BitVec 64

/-- A 16-byte block. A structure (not a list) so that every block operation is total and
    equalities of blocks reduce to sixteen byte equalities. Field `bk` is the byte at offset `k`. -/
structure Block where
  b0 : Byte
  b1 : Byte
  b2 : Byte
  b3 : Byte
  b4 : Byte
  b5 : Byte
  b6 : Byte
  b7 : Byte
  b8 : Byte
  b9 : Byte
  b10 : Byte
  b11 : Byte
  b12 : Byte
  b13 : Byte
  b14 : Byte
  b15 : Byte
  deriving DecidableEq, Repr, Inhabited

namespace Block

def toList (b : Block) : Bytes :=
  [b.b0, b.b1, b.b2, b.b3, b.b4, b.b5, b.b6, b.b7, b.b8, b.b9, b.b10, b.b11, b.b12, b.b13, b.b14, b.b15]

/-- the first 16 bytes of a list as a block; `none` when the list is shorter -/
def ofList? : Bytes → Option Block
  | b0 :: b1 :: b2 :: b3 :: b4 :: b5 :: b6 :: b7 :: b8 :: b9 :: b10 :: b11 :: b12 :: b13 :: b14 :: b15 :: _ =>
      some ⟨b0, b1, b2, b3, b4, b5, b6, b7, b8, b9, b10, b11, b12, b13, b14, b15⟩
  | _ => none

/-- total variant (missing bytes read as 0); exact whenever the list has at least 16 bytes -/
def ofListD (l : Bytes) : Block :=
  ⟨l.getD 0 0, l.getD 1 0, l.getD 2 0, l.getD 3 0, l.getD 4 0, l.getD 5 0, l.getD 6 0, l.getD 7 0,
   l.getD 8 0, l.getD 9 0, l.getD 10 0, l.getD 11 0, l.getD 12 0, l.getD 13 0, l.getD 14 0, l.getD 15 0⟩

def zero : Block := ⟨0, 0, 0, 0, 0, 0, 0, 0, 0, 0, 0, 0, 0, 0, 0, 0⟩

def xor (x y : Block) : Block :=
  ⟨x.b0 ^^^ y.b0, x.b1 ^^^ y.b1, x.b2 ^^^ y.b2, x.b3 ^^^ y.b3, x.b4 ^^^ y.b4, x.b5 ^^^ y.b5, x.b6 ^^^ y.b6, x.b7 ^^^ y.b7,
   x.b8 ^^^ y.b8, x.b9 ^^^ y.b9, x.b10 ^^^ y.b10, x.b11 ^^^ y.b11, x.b12 ^^^ y.b12, x.b13 ^^^ y.b13, x.b14 ^^^ y.b14, x.b15 ^^^ y.b15⟩

def map (f : Byte → Byte) (x : Block) : Block :=
  ⟨f x.b0, f x.b1, f x.b2, f x.b3, f x.b4, f x.b5, f x.b6, f x.b7, f x.b8, f x.b9, f x.b10, f x.b11, f x.b12, f x.b13, f x.b14, f x.b15⟩

@[simp] theorem toList_length (b : Block) : b.toList.length = 16 := rfl

@[simp] theorem ofList?_toList (b : Block) : ofList? b.toList = some b := rfl

theorem ofList?_toList_append (b : Block) (r : Bytes) : ofList? (b.toList ++ r) = some b := rfl

theorem toList_ofListD (l : Bytes) (h : l.length = 16) : (ofListD l).toList = l := by
  match l, h with
  | [_, _, _, _, _, _, _, _, _, _, _, _, _, _, _, _], _ => rfl

theorem toList_inj {a b : Block} (h : a.toList = b.toList) : a = b :=
  Option.some.inj (by rw [← ofList?_toList a, h, ofList?_toList])

theorem xor_xor_cancel_right (x y : Block) : (x.xor y).xor y = x := by
  cases x; cases y; simp [xor, BitVec.xor_assoc]

theorem xor_xor_cancel_left (x y : Block) : y.xor (y.xor x) = x := by
  cases x; cases y; simp [xor, ← BitVec.xor_assoc]

theorem xor_comm (x y : Block) : x.xor y = y.xor x := by
  cases x; cases y; simp [xor, BitVec.xor_comm]

end Block

/-- split a byte string into its whole 16-byte blocks and the remaining `< 16` bytes -/
def splitBlocks (bs : Bytes) : List Block × Bytes :=
  if _h : 16 ≤ bs.length then
    let r := splitBlocks (bs.drop 16)
    (Block.ofListD bs :: r.1, r.2)
  else ([], bs)
termination_by bs.length
decreasing_by simp [List.length_drop]; omega

def joinBlocks (bl : List Block) : Bytes := (bl.map Block.toList).flatten

/-- hexadecimal rendering used by the driver protocol -/
def hexDigit (n : Nat) : Char :=
  if n < 10 then Char.ofNat (48 + n) else Char.ofNat (87 + n)

def Byte.toHex (b : Byte) : String :=
  String.ofList [hexDigit (b.toNat / 16), hexDigit (b.toNat % 16)]

def hexOf (bs : Bytes) : String :=
  String.ofList (bs.flatMap fun b => [hexDigit (b.toNat / 16), hexDigit (b.toNat % 16)])

def hexVal? (c : Char) : Option Nat :=
  if '0' ≤ c ∧ c ≤ '9' then some (c.toNat - 48)
  else if 'a' ≤ c ∧ c ≤ 'f' then some (c.toNat - 87)
  else if 'A' ≤ c ∧ c ≤ 'F' then some (c.toNat - 55)
  else none

def unhexAux : List Char → Bytes → Option Bytes
  | [], acc => some acc.reverse
  | [_], _ => none
  | a :: b :: r, acc =>
    match hexVal? a, hexVal? b with
    | some x, some y => unhexAux r (BitVec.ofNat 8 (x * 16 + y) :: acc)
    | _, _ => none

/-- parse a hex string ("-" stands for the empty string) -/
def unhex? (s : String) : Option Bytes :=
  if s = "-" then some [] else unhexAux s.toList []

/-- the generated tables are compared with the model through this, hence Boolean entries and lookups that default to `false`:
    evaluating the hypothesis walks a table once, evaluating the conclusion walks it once for every index -/
theorem all_getD_tabulated (f : Nat → Bool) (n : Nat) (l : List Bool) (h : l = (List.range n).map f) :
    ((List.range n).all fun t => l.getD t false == f t) = true := by
  subst h
  simp only [List.all_eq_true, List.mem_range, beq_iff_eq]
  intro t ht
  rw [List.getD_eq_getElem?_getD, List.getElem?_map, List.getElem?_range ht]; rfl

theorem or_shl_eq_add (H X k m : Nat) (hx : X < 2 ^ m) (hh : H / 2 ^ k % 2 ^ m = 0) :
    H ||| X <<< k = H + X * 2 ^ k := by
  have hlo : H % 2 ^ k < 2 ^ k := Nat.mod_lt _ (Nat.two_pow_pos k)
  have hq : H / 2 ^ k ||| X = H / 2 ^ k + X := by
    have := Nat.div_add_mod (H / 2 ^ k) (2 ^ m)
    rw [hh, Nat.add_zero, Nat.mul_comm, ← Nat.shiftLeft_eq] at this
    rw [← this, Nat.shiftLeft_add_eq_or_of_lt hx]
  have hH : (H / 2 ^ k) <<< k ||| H % 2 ^ k = H := by
    rw [← Nat.shiftLeft_add_eq_or_of_lt hlo, Nat.shiftLeft_eq, Nat.mul_comm, Nat.div_add_mod]
  -- split `H` at bit `k`: the field joins the upper part, the lower part stays below both
  calc H ||| X <<< k = ((H / 2 ^ k) <<< k ||| H % 2 ^ k) ||| X <<< k := by rw [hH]
    _ = (H / 2 ^ k ||| X) <<< k ||| H % 2 ^ k := by
        rw [Nat.shiftLeft_or_distrib, Nat.or_assoc, Nat.or_comm (H % 2 ^ k), ← Nat.or_assoc]
    _ = (H / 2 ^ k) <<< k + H % 2 ^ k + X * 2 ^ k := by
        rw [hq, ← Nat.shiftLeft_add_eq_or_of_lt hlo, Nat.shiftLeft_eq, Nat.add_mul, Nat.add_right_comm, ← Nat.shiftLeft_eq]
    _ = H + X * 2 ^ k := by rw [Nat.shiftLeft_add_eq_or_of_lt hlo, hH]

/-- `hh` (bits `k .. k + m - 1` of `h` are clear) has the form that `omega` checks once `h.toNat` is known as a sum of shifted fields -/
theorem toNat_or_shl {w : Nat} (h : W32) (x : BitVec w) (k m : Nat) (hx : x.toNat < 2 ^ m) (hk : k + m ≤ 32)
    (hh : h.toNat / 2 ^ k % 2 ^ m = 0) : (h ||| (x.zeroExtend 32 <<< k)).toNat = h.toNat + x.toNat * 2 ^ k := by
  have h32 : x.toNat * 2 ^ k < 2 ^ 32 :=
    calc x.toNat * 2 ^ k < 2 ^ m * 2 ^ k := Nat.mul_lt_mul_of_pos_right hx (Nat.two_pow_pos k)
      _ ≤ 2 ^ 32 := by rw [← Nat.pow_add]; exact Nat.pow_le_pow_right (by omega) (by omega)
  have hxw : x.toNat < 2 ^ 32 := Nat.lt_of_le_of_lt (Nat.le_mul_of_pos_right _ (Nat.two_pow_pos k)) h32
  rw [BitVec.toNat_or, BitVec.toNat_shiftLeft, BitVec.toNat_setWidth, Nat.mod_eq_of_lt hxw, Nat.shiftLeft_eq,
    Nat.mod_eq_of_lt h32, ← Nat.shiftLeft_eq, or_shl_eq_add _ _ k m hx hh, Nat.shiftLeft_eq]

theorem shr_truncate8 {w : Nat} (h : BitVec w) (k : Nat) : (h >>> k).truncate 8 = BitVec.ofNat 8 (h.toNat / 2 ^ k) := by
  apply BitVec.eq_of_toNat_eq
  simp [Nat.shiftRight_eq_div_pow]

theorem ofNat8_eq (n : Nat) (a : Byte) (h : n % 256 = a.toNat) : BitVec.ofNat 8 n = a :=
  BitVec.eq_of_toNat_eq (by rw [BitVec.toNat_ofNat]; exact h)

/-- the 32-bit word with `b0` as its least significant byte and `b3` as its most significant -/
def pack4 (b0 b1 b2 b3 : Byte) : W32 :=
  b0.zeroExtend 32 ||| (b1.zeroExtend 32 <<< 8) ||| (b2.zeroExtend 32 <<< 16) ||| (b3.zeroExtend 32 <<< 24)

theorem toNat_pack4 (a b c d : Byte) :
    (pack4 a b c d).toNat = a.toNat + 2 ^ 8 * b.toNat + 2 ^ 16 * c.toNat + 2 ^ 24 * d.toNat := by
  have h0 : (a.zeroExtend 32 : W32).toNat = a.toNat := by rw [BitVec.toNat_setWidth]; omega
  have h1 := toNat_or_shl (a.zeroExtend 32) b 8 8 (by omega) (by omega) (by omega)
  have h2 := toNat_or_shl _ c 16 8 (by omega) (by omega) (by rw [h1]; omega)
  rw [pack4, toNat_or_shl _ d 24 8 (by omega) (by omega) (by rw [h2, h1]; omega), h2, h1]; omega

theorem pack4_byte0 (a b c d : Byte) : (pack4 a b c d).truncate 8 = a := by
  rw [← BitVec.ushiftRight_zero (x := pack4 a b c d), shr_truncate8, toNat_pack4]; exact ofNat8_eq _ a (by omega)
theorem pack4_byte1 (a b c d : Byte) : (pack4 a b c d >>> 8).truncate 8 = b := by
  rw [shr_truncate8, toNat_pack4]; exact ofNat8_eq _ b (by omega)
theorem pack4_byte2 (a b c d : Byte) : (pack4 a b c d >>> 16).truncate 8 = c := by
  rw [shr_truncate8, toNat_pack4]; exact ofNat8_eq _ c (by omega)
theorem pack4_byte3 (a b c d : Byte) : (pack4 a b c d >>> 24).truncate 8 = d := by
  rw [shr_truncate8, toNat_pack4]; exact ofNat8_eq _ d (by omega)

/-! Members of a residue class: chunk `j` of a file belongs to stream, worker and buffer `j % T`. -/
section
variable {α : Type} {T a b c i m n : Nat} {g : Nat → List α}

theorem mod_uniq (h1 : a ≤ b) (h2 : b < a + T) (h : a % T = b % T) : a = b := by
  have := Nat.sub_mod_eq_zero_of_mod_eq h.symm
  have h3 : (b - a) % T = b - a := Nat.mod_eq_of_lt (by omega)
  omega

theorem sub_mod_self (h : T ≤ n) : (n - T) % T = n % T := by
  rw [← Nat.add_mod_right (n - T) T]; congr 1; omega

/-- the lists `g j` for `a ≤ j < a + n` with `j % T = i`, concatenated -/
def seg (T : Nat) (g : Nat → List α) (a n i : Nat) : List α :=
  ((List.range' a n).filter (fun j => j % T = i)).flatMap g

theorem seg_zero : seg T g a 0 i = [] := by simp [seg]

theorem seg_one : seg T g a 1 i = if a % T = i then g a else [] := by
  by_cases h : a % T = i <;> simp [seg, h]

theorem seg_append : seg T g a (m + n) i = seg T g a m i ++ seg T g (a + m) n i := by
  simp [seg, ← List.range'_append_1]

theorem seg_gap (hx : ∀ x, a ≤ x → x < a + n → x % T ≠ i) : seg T g a n i = [] := by
  induction n with
  | zero => exact seg_zero
  | succ n ih =>
    rw [seg_append, ih fun x h1 h2 => hx x h1 (by omega), seg_one, if_neg (hx _ (by omega) (by omega))]; rfl

/-- nothing of residue `i` below `n ≤ i < T` -/
theorem seg_low (hi : i < T) (hn : n ≤ i) : seg T g 0 n i = [] :=
  seg_gap fun x _ hx => by rw [Nat.mod_eq_of_lt (by omega)]; omega

/-- below `m ∈ (c, c + T]` the last member of the residue class of `c` is `c` -/
theorem seg_next (h : c % T = i) (h1 : c < m) (h2 : m ≤ c + T) : seg T g 0 m i = seg T g 0 c i ++ g c := by
  obtain ⟨k, rfl⟩ : ∃ k, m = c + (1 + k) := ⟨m - c - 1, by omega⟩
  have hg : seg T g (c + 1) k i = [] := seg_gap fun x hx1 hx2 hxe => by
    have := mod_uniq (T := T) (a := c) (b := x) (by omega) (by omega) (by omega)
    omega
  rw [seg_append, seg_append, seg_one, Nat.zero_add, if_pos h, hg, List.append_nil]
end

end Wencry
