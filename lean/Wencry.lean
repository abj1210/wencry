import Wencry.Basic
import Wencry.Generated.Consts
import Wencry.Generated.Tables
import Wencry.Spec.AES
import Wencry.Spec.Base64
import Wencry.Spec.HMAC
import Wencry.Spec.Hash
import Wencry.Spec.Modes
import Wencry.Spec.Wenc
import Wencry.Model.Aes
import Wencry.Model.Base64
import Wencry.Model.Cli
import Wencry.Model.File
import Wencry.Model.Getopt
import Wencry.Model.Hash
import Wencry.Model.HashBuffer
import Wencry.Model.Hmac
import Wencry.Model.IoBuffer
import Wencry.Model.Modes
import Wencry.Model.Pipe
import Wencry.Model.PipeFine
import Wencry.Model.PipeFineSpurious
import Wencry.Model.PipePinned
import Wencry.Model.PipeSpurious
import Wencry.Model.Proc
import Wencry.Model.Program
import Wencry.Model.Stdio
import Wencry.Model.Dialog
import Wencry.Proofs.AesCorrect
import Wencry.Proofs.Base64Correct
import Wencry.Proofs.Blocks
import Wencry.Proofs.Chunks
import Wencry.Proofs.CliCorrect
import Wencry.Proofs.Crash
import Wencry.Proofs.CtrPosition
import Wencry.Proofs.EncSpec
import Wencry.Proofs.EncSpecInter
import Wencry.Proofs.EncryptData
import Wencry.Proofs.FileLogic
import Wencry.Proofs.GetoptCorrect
import Wencry.Proofs.HashCompress
import Wencry.Proofs.HashCorrect
import Wencry.Proofs.HashFramework
import Wencry.Proofs.HmacCorrect
import Wencry.Proofs.ModesCorrect
import Wencry.Proofs.ModesAes
import Wencry.Proofs.PipeCtl
import Wencry.Proofs.PipeData
import Wencry.Proofs.PipeDataInv
import Wencry.Proofs.PipeFine
import Wencry.Proofs.PipeFineSpurious
import Wencry.Proofs.PipeProgress
import Wencry.Proofs.PipeSpurious
import Wencry.Proofs.ProgramCorrect
import Wencry.Proofs.Roundtrip
import Wencry.Proofs.SeqGlue
import Wencry.Proofs.SeqLoop
import Wencry.Proofs.Stdio
import Wencry.Proofs.DialogCorrect
import Wencry.Proofs.TypedKey
import Wencry.Props.C01
import Wencry.Props.C02
import Wencry.Props.C03
import Wencry.Props.C04
import Wencry.Props.C05
import Wencry.Props.C06
import Wencry.Props.C07
import Wencry.Props.C08
import Wencry.Props.C09
import Wencry.Props.C10
import Wencry.Props.C11
import Wencry.Props.C12
import Wencry.Props.C13
import Wencry.Props.C14
import Wencry.Props.C15
import Wencry.Props.C16
import Wencry.Props.C17
import Wencry.Props.C18
import Wencry.Props.Pinned
